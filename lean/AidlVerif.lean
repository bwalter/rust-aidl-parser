import AidlVerif.Model.Ast
import AidlVerif.Model.Traverse
import AidlVerif.Model.Validation
import AidlVerif.Lemmas.Sort
import AidlVerif.Lemmas.Methods
import AidlVerif.Lemmas.Oneway
import AidlVerif.Spec.Common
import AidlVerif.Spec.C07
import AidlVerif.Props.C07
import AidlVerif.Driver.Codec
import AidlVerif.Driver.Run
import AidlVerif.Lemmas.Types
import AidlVerif.Lemmas.Firsts
import AidlVerif.Model.Symbol
import AidlVerif.Lemmas.Resolve
import AidlVerif.Lemmas.Validate
import AidlVerif.Props.C05
import AidlVerif.Props.C06
import AidlVerif.Props.C08
import AidlVerif.Props.C09
import AidlVerif.Props.C10
import AidlVerif.Props.C15
import AidlVerif.Props.C16
import AidlVerif.Props.C17
import AidlVerif.Driver.Walk
import AidlVerif.Model.Store
import AidlVerif.Lemmas.Keys
import AidlVerif.Props.C11
import AidlVerif.Props.C12
import AidlVerif.Props.C13
import AidlVerif.Model.Diagnostic
import AidlVerif.Model.Serde
import AidlVerif.Props.C19
import AidlVerif.Props.C19Gen
import AidlVerif.Props.C20
import AidlVerif.Driver.SerdeEnc
import AidlVerif.Model.Regex
import AidlVerif.Model.Lexer
import AidlVerif.Model.Javadoc
import AidlVerif.Model.Actions
import AidlVerif.Model.Lr
import AidlVerif.Gen.LexTable
import AidlVerif.Gen.LrTables
import AidlVerif.Gen.Actions
import AidlVerif.Driver.Parse
import AidlVerif.Spec.ParseLevel
import AidlVerif.Props.Parser
import AidlVerif.Props.ParseLevel
import AidlVerif.Props.C01
import AidlVerif.Props.C02
import AidlVerif.Props.C03
import AidlVerif.Props.C04
import AidlVerif.Props.C14
import AidlVerif.Props.C18
import AidlVerif.Lemmas.RunM
import AidlVerif.Props.JavadocTotal
import AidlVerif.Props.LexerBounds
import AidlVerif.Lemmas.Checks
import AidlVerif.Props.LrCert
import AidlVerif.Props.LrDriver
import AidlVerif.Props.LrSafe
import AidlVerif.Props.LrSafeCert
import AidlVerif.Props.LrInv
import AidlVerif.Props.ActionsSafe
import AidlVerif.Props.ParseTotal
import AidlVerif.Props.JavadocAttach
import AidlVerif.Model.Typing
import AidlVerif.Gen.Typing
import AidlVerif.Props.Typed
import AidlVerif.Props.ActionsTyped
import AidlVerif.Props.TypeCheck
import AidlVerif.Props.LrTyped
import AidlVerif.Props.ParseTyped
import AidlVerif.Props.LrSound
import AidlVerif.Props.ParseSound
import AidlVerif.Props.LexerProgress
import AidlVerif.Props.LexToksC
import AidlVerif.Props.LexerLang
import AidlVerif.Props.LexerFuel
import AidlVerif.Props.LrTermCert
import AidlVerif.Props.ParseTerm
import AidlVerif.Props.PipelineTotal
import AidlVerif.Props.C02Layout
import AidlVerif.Props.C03Complete
import AidlVerif.Props.Examples
import AidlVerif.Props.RegexSound
import AidlVerif.Props.JavadocWords
import AidlVerif.Props.DiagCtx
import AidlVerif.Props.RegexEval
import AidlVerif.Props.JavadocSpec
import AidlVerif.Props.JavadocForm
import AidlVerif.Props.SkipEntries
import AidlVerif.Props.LexSkip
import AidlVerif.Props.LexIdent
import AidlVerif.Props.LexWords
import AidlVerif.Props.LexTokens
import AidlVerif.Props.LexNumbers
import AidlVerif.Props.LexRuns
import AidlVerif.Props.LexSpec
import AidlVerif.Props.LexUnlex
import AidlVerif.Props.LexAccept
import AidlVerif.Props.LexCheck
