import AidlVerif.Model.Ast
import AidlVerif.Model.Javadoc
import AidlVerif.Model.Diagnostic
import AidlVerif.Model.Lexer

/-!
Semantic values of the generated parser and the evaluation of its `__actionN` functions.

* composite actions (location plumbing generated by lalrpop for `@L`, `@R`, `?`, `*`, inlining) and
  the generic list/option builders are DATA, regenerated from the generated parser on every run
  (`Gen.actionDefs`); `evalAction` interprets them;
* the actions that carry text of `aidl.lalrpop` are written here by hand, one per action index,
  and pinned to the generated text by `Gen.userActionPrints` (see `Props/Parser.lean`).

Rust partial operations are explicit errors of the monad (`throw` = panic): `Range::new` on an
offset that is not a character boundary inside the input, the `unreachable!()` of `Direction`,
`&input[..pos]` in `get_javadoc`.
-/

namespace Aidl.Actions
open Aidl.Lexer

/-- `lalrpop_util::ParseError` (the `User` variant never occurs: no action fails) -/
inductive ParseErr
  | invalidToken (location : Nat)
  | unrecognizedEof (location : Nat) (expected : List String)
  | unrecognizedToken (tok : Token) (expected : List String)
  | extraToken (tok : Token)
deriving Repr, DecidableEq

inductive Val
  | tok (s : String)                 -- &'input str
  | loc (n : Nat)                    -- usize (@L / @R)
  | str (s : String)                 -- String
  | none_
  | some_ (v : Val)
  | list (l : List Val)
  | pair (a b : Val)
  | recovery (err : ParseErr) (dropped : List Token)
  | package (p : Package)
  | import_ (i : Import)
  | ty (t : Ty)
  | dir (d : Direction)
  | ann (a : Annotation)
  | arg (a : Arg)
  | method (m : Method)
  | const (c : Const)
  | field (f : Field)
  | enumEl (e : EnumElement)
  | iel (e : InterfaceElement)
  | pel (e : ParcelableElement)
  | iface (i : Interface)
  | parc (p : Parcelable)
  | enm (e : Enum)
  | item (i : Item)
  | aidl (a : AidlFile)
deriving Inhabited

/-- an argument of an action: a symbol triple `(start, value, end)` or a bare location
    (`__lookbehind` / `__lookahead` / `&__startK`) -/
inductive ArgV
  | triple (start : Nat) (v : Val) (stop : Nat)
  | locRef (n : Nat)
deriving Inhabited

inductive LocExpr
  | param (i : Nat) (start : Bool)   -- `__i.0` / `__i.2` (or the location itself for a bare one)
  | var (name : String)
deriving Repr

inductive ArgExpr
  | param (i : Nat)
  | temp (name : String)
  | loc (name : String)
deriving Repr

inductive Stmt
  | letLoc (name : String) (e : LocExpr)
  | letCall (name : String) (action : Nat) (args : List ArgExpr)
  | letTriple (name startVar endVar : String)
  | ret (action : Nat) (args : List ArgExpr)
deriving Repr

inductive Prim
  | arg (i : Nat) | some (i : Nat) | none | nil | sing (i : Nat)
  | push (v e : Nat) | pushOpt (v e : Nat) | pair (i j : Nat)
deriving Repr

inductive ActionDef
  | composite (arity : Nat) (body : List Stmt)
  | prim (arity : Nat) (p : Prim)
  | user (arity : Nat) (print : Nat)    -- print of (parameter list, return type, body text)
deriving Repr, Inhabited

/-- what the actions can see besides their arguments -/
structure Env where
  text : List Char
  /-- `LineColLookup::get_by_cluster`: defined on character boundaries inside the input only -/
  lineCol : Nat → Option (Nat × Nat)

/-- why a run of the model stops abnormally -/
inductive PanicKind
  | bounds    -- Rust: `Range::new` off a character boundary / outside the text, a `&input[a..b]` of `javadoc.rs`
  | lexical   -- Rust: `unreachable!()` of `Direction` (a DIRECTION token that is none of in / out / inout)
  | shape     -- model only: the untyped `Val` has the wrong constructor (excluded statically by rustc in the generated parser)
  | table     -- model only: the regenerated action table is not closed (unbound name, missing action, nesting > fuel)
deriving DecidableEq, Repr

structure Panic where
  kind : PanicKind
  msg : String
deriving Repr

abbrev M := ReaderT Env (StateT (List Diag) (Except Panic))

def bad {α} (k : PanicKind) (m : String) : M α := throw ⟨k, m⟩

def pushDiag (d : Diag) : M Unit := modify (· ++ [d])

/-- `Position::new` -/
def mkPos (off : Nat) : M Pos := do
  match (← read).lineCol off with
  | some lc => pure { off := off, line := lc.1, col := lc.2 }
  | none => bad .bounds s!"Range::new: offset {off} is not a character boundary inside the input"

/-- `Range::new` -/
def mkRange (a b : Nat) : M Range := do pure { start := ← mkPos a, stop := ← mkPos b }

def getJavadoc (pos : Nat) : M (Option String) := do
  match Javadoc.getJavadoc (← read).text pos with
  | .ok d => pure d
  | .error e => bad .bounds e

/-! ### `Diagnostic::from_parse_error` / `from_error_recovery` -/

def fromParseError (e : ParseErr) : M Diag := do
  match e with
  | .invalidToken l =>
    pure { kind := .error, message := "Invalid token", context := some "invalid token",
           range := ← mkRange l l, hint := none, related := [] }
  | .unrecognizedEof l expected =>
    pure { kind := .error, message := unrecognizedEofMessage expected, context := some "unrecognized EOF",
           range := ← mkRange l l, hint := none, related := [] }
  | .unrecognizedToken t expected =>
    pure { kind := .error, message := unrecognizedTokenMessage t.text expected,
           context := some "unrecognized token", range := ← mkRange t.start t.stop, hint := none, related := [] }
  | .extraToken t =>
    pure { kind := .error, message := "Extra token `" ++ t.text ++ "`", context := some "extra token",
           range := ← mkRange t.start t.stop, hint := none, related := [] }

def fromErrorRecovery (msg : String) (e : ParseErr) : M Diag := do
  let d ← fromParseError e
  pure { d with message := msg ++ " - " ++ d.message }

/-! ### argument access -/

def argVal : ArgV → M Val
  | .triple _ v _ => pure v
  | .locRef n => pure (.loc n)

def nth (args : List ArgV) (i : Nat) : M Val :=
  match args[i]? with
  | some a => argVal a
  | none => bad .shape s!"action: missing argument {i}"

def asLoc : Val → M Nat
  | .loc n => pure n
  | _ => bad .shape "action: expected a location"
def asTok : Val → M String
  | .tok s => pure s
  | _ => bad .shape "action: expected a token"
def asStr : Val → M String
  | .str s => pure s
  | _ => bad .shape "action: expected a string"
def asList : Val → M (List Val)
  | .list l => pure l
  | _ => bad .shape "action: expected a vector"
def asOpt : Val → M (Option Val)
  | .none_ => pure none
  | .some_ v => pure (some v)
  | _ => bad .shape "action: expected an option"
def asTy : Val → M Ty
  | .ty t => pure t
  | _ => bad .shape "action: expected a type"
def asPackageV : Val → M Package
  | .package p => pure p
  | _ => bad .shape "action 16: package"
def asImportV : Val → M Import
  | .import_ i => pure i
  | _ => bad .shape "action 16: import"
def asItemV : Val → M Item
  | .item it => pure it
  | _ => bad .shape "action 16: item"
def asIfaceV : Val → M Interface
  | .iface i => pure i
  | _ => bad .shape "action 21"
def asParcV : Val → M Parcelable
  | .parc p => pure p
  | _ => bad .shape "action 22"
def asEnmV : Val → M Enum
  | .enm e => pure e
  | _ => bad .shape "action 23"
def asMethodV : Val → M Method
  | .method m => pure m
  | _ => bad .shape "action 26"
def asConstV : Val → M Const
  | .const c => pure c
  | _ => bad .shape "action 27"
def asFieldV : Val → M Field
  | .field f => pure f
  | _ => bad .shape "action 30"
def asEnumElV : Val → M EnumElement
  | .enumEl e => pure e
  | _ => bad .shape "action 33: element"
def asDirV : Val → M Direction
  | .dir d => pure d
  | _ => bad .shape "action 37: direction"
def asStrPairV : Val → M (String × String)
  | .pair (.str a) (.str b) => pure (a, b)
  | _ => bad .shape "action 20: dotted name"
def asLocTokV : Val → M (Nat × String)
  | .pair (.loc a) (.tok s) => pure (a, s)
  | _ => bad .shape "action 36: transact code"
def asAnnParamV : Val → M (String × Option String)
  | .pair (.str k) .none_ => pure (k, none)
  | .pair (.str k) (.some_ (.str v)) => pure (k, some v)
  | _ => bad .shape "action 61: parameter"
def asArgV : Val → M Arg
  | .arg a => pure a
  | _ => bad .shape "action 36: arg"
def asIelV : Val → M InterfaceElement
  | .iel e => pure e
  | _ => bad .shape "action 25: element"
def asPelV : Val → M ParcelableElement
  | .pel e => pure e
  | _ => bad .shape "action 29: element"
def asAnns (v : Val) : M (List Annotation) := do
  (← asList v).mapM fun | .ann a => pure a | _ => bad .shape "action: expected an annotation"
def optTokStr (v : Val) : M (Option String) := do
  match ← asOpt v with
  | none => pure none
  | some t => some <$> asTok t

def locAt (args : List ArgV) (i : Nat) : M Nat := do asLoc (← nth args i)
def tokAt (args : List ArgV) (i : Nat) : M String := do asTok (← nth args i)

/-- `v.join(".")` on a vector of token texts -/
def joinToks (v : Val) : M String := do
  let l ← (← asList v).mapM asTok
  pure (joinWith "." l)

/-- `v.into_iter().flatten().collect()` on a vector of options -/
def flattenOpts (v : Val) : M (List Val) := do
  let l ← asList v
  let os ← l.mapM asOpt
  pure (os.filterMap id)

/-- `str::parse::<u32>()`: `[0-9]+` tokens only reach here; the value must fit in 32 bits -/
def parseU32 (s : String) : Except String Nat :=
  let n := s.toList.foldl (fun acc c => acc * 10 + (c.toNat - '0'.toNat)) 0
  if s.isEmpty then .error "cannot parse integer from empty string"
  else if n < 4294967296 then .ok n else .error "number too large to fit in target type"

/-- `HashMap` collect of annotation parameters: the last value of a key wins; canonical order = sorted by key -/
def collectKeyValues (ps : List (String × Option String)) : List (String × Option String) :=
  let dedup := ps.foldl (fun acc kv => (acc.filter (fun e => e.1 != kv.1)) ++ [kv]) []
  (dedup.toArray.qsort (fun a b => a.1 < b.1)).toList

def simpleType (name : String) (kind : TypeKind) (a b : Nat) : M Val := do
  let r ← mkRange a b
  pure (.ty (.mk name kind [] r r))

/-! ### the actions written in `aidl.lalrpop` (indices as in the generated parser) -/

def recoveryAction (msg : String) (args : List ArgV) : M Val := do
  match ← nth args 0 with
  | .recovery e _ =>
    let d ← fromErrorRecovery msg e
    pushDiag d
    pure .none_
  | _ => bad .shape "action: expected an error recovery"

def userAction (id : Nat) (args : List ArgV) : M Val := do
  match id with
  -- OptAidl
  | 16 => do
    let p ← asPackageV (← nth args 0)
    let imps ← (← asList (← nth args 1)).mapM asImportV
    let decls ← (← asList (← nth args 2)).mapM asImportV
    match ← asOpt (← nth args 3) with
    | none => pure .none_
    | some v =>
      let it ← asItemV v
      pure (.some_ (.aidl { package := p, imports := imps, declaredParcelables := decls, item := it }))
  -- Package: fp1 PACKAGE sp1 name sp2 fp2 ";"
  | 17 => do
    let name ← asStr (← nth args 3)
    pure (.package { name, sym := ← mkRange (← locAt args 2) (← locAt args 4), full := ← mkRange (← locAt args 0) (← locAt args 5) })
  -- Import: fp1 IMPORT sp1 v n sp2 fp2 ";"
  | 18 => do
    pure (.import_ { path := ← joinToks (← nth args 3), name := ← tokAt args 4,
                     sym := ← mkRange (← locAt args 2) (← locAt args 5), full := ← mkRange (← locAt args 0) (← locAt args 6) })
  -- QualifiedName: v n
  | 19 => do
    let v ← asList (← nth args 0)
    let n ← tokAt args 1
    if v.isEmpty then pure (.str n) else pure (.str ((← joinToks (.list v)) ++ "." ++ n))
  -- DeclaredParcelable: annotations fp1 PARCELABLE sp1 q sp2 ";" fp2
  | 20 => do
    let pn ← asStrPairV (← nth args 4)
    pure (.import_ { path := pn.1, name := pn.2, sym := ← mkRange (← locAt args 3) (← locAt args 5),
                     full := ← mkRange (← locAt args 1) (← locAt args 7) })
  -- DottedName: v n
  | 100 => do pure (.pair (.str (← joinToks (← nth args 0))) (.str (← tokAt args 1)))
  -- OptItem
  | 21 => do pure (.some_ (.item (.interface (← asIfaceV (← nth args 0)))))
  | 22 => do pure (.some_ (.item (.parcelable (← asParcV (← nth args 0)))))
  | 23 => do pure (.some_ (.item (.enum (← asEnmV (← nth args 0)))))
  | 24 => recoveryAction "Invalid item" args
  -- Interface: p0 annotations fp1 oneway INTERFACE sp1 s sp2 "{" v "}" fp2
  | 25 => do
    let els ← (← flattenOpts (← nth args 9)).mapM asIelV
    pure (.iface { oneway := (← asOpt (← nth args 3)).isSome, name := ← tokAt args 6, elements := els,
                   annotations := ← asAnns (← nth args 1), doc := ← getJavadoc (← locAt args 0),
                   full := ← mkRange (← locAt args 2) (← locAt args 11), sym := ← mkRange (← locAt args 5) (← locAt args 7) })
  | 26 => do pure (.some_ (.iel (.method (← asMethodV (← nth args 0)))))
  | 27 => do pure (.some_ (.iel (.const (← asConstV (← nth args 0)))))
  | 28 => recoveryAction "Invalid interface element" args
  -- Parcelable: p0 annotations fp1 PARCELABLE sp1 s sp2 "{" v "}" fp2
  | 29 => do
    let els ← (← flattenOpts (← nth args 8)).mapM asPelV
    pure (.parc { name := ← tokAt args 5, elements := els, annotations := ← asAnns (← nth args 1),
                  doc := ← getJavadoc (← locAt args 0),
                  full := ← mkRange (← locAt args 2) (← locAt args 10), sym := ← mkRange (← locAt args 4) (← locAt args 6) })
  | 30 => do pure (.some_ (.pel (.field (← asFieldV (← nth args 0)))))
  | 31 => do pure (.some_ (.pel (.const (← asConstV (← nth args 0)))))
  | 32 => recoveryAction "Invalid parcelable element" args
  -- Enum: p0 annotations fp1 ENUM sp1 s sp2 "{" v "}" fp2
  | 33 => do
    let els ← (← flattenOpts (← nth args 8)).mapM asEnumElV
    pure (.enm { name := ← tokAt args 5, elements := els, annotations := ← asAnns (← nth args 1),
                 doc := ← getJavadoc (← locAt args 0),
                 full := ← mkRange (← locAt args 2) (← locAt args 10), sym := ← mkRange (← locAt args 4) (← locAt args 6) })
  | 34 => do pure (.some_ (← nth args 0))
  | 35 => recoveryAction "Invalid enum element" args
  -- Method: p0 annotations fp1 owp1 oneway owp2 rt sp1 n sp2 "(" args ")" vp1 v vp2 fp2 ";"
  | 36 => do
    let margs ← (← asList (← nth args 11)).mapM asArgV
    let vp2 ← locAt args 15
    let code ← match ← asOpt (← nth args 14) with
      | none => pure none
      | some c =>
        let ls ← asLocTokV c
        match parseU32 ls.2 with
        | .ok v => pure (some v)
        | .error e =>
          pushDiag { kind := .error, range := ← mkRange ls.1 vp2, message := "Invalid method transact code: " ++ e,
                     context := none, hint := none, related := [] }
          pure none
    pure (.method { oneway := (← asOpt (← nth args 4)).isSome, name := ← tokAt args 8, returnType := ← asTy (← nth args 6),
                    args := margs, annotations := ← asAnns (← nth args 1), doc := ← getJavadoc (← locAt args 0),
                    transactCode := code,
                    full := ← mkRange (← locAt args 2) (← locAt args 16), sym := ← mkRange (← locAt args 7) (← locAt args 9),
                    transactCodeRange := ← mkRange (← locAt args 13) vp2,
                    onewayRange := ← mkRange (← locAt args 3) (← locAt args 5) })
  -- Arg: p0 d annotations t sp1 n p2
  | 37 => do
    let d ← asDirV (← nth args 1)
    let p0 ← locAt args 0
    let p2 ← locAt args 6
    pure (.arg { direction := d, name := ← optTokStr (← nth args 5), argType := ← asTy (← nth args 3),
                 sym := ← mkRange (← locAt args 4) p2, full := ← mkRange p0 p2,
                 annotations := ← asAnns (← nth args 2), doc := ← getJavadoc p0 })
  -- Direction: p1 d p2
  | 38 => do
    let p1 ← locAt args 0
    let p2 ← locAt args 2
    match ← optTokStr (← nth args 1) with
    | some "in" => pure (.dir (.in_ (← mkRange p1 p2)))
    | some "out" => pure (.dir (.out (← mkRange p1 p2)))
    | some "inout" => pure (.dir (.inout (← mkRange p1 p2)))
    | none => pure (.dir .unspecified)
    | some _ => bad .lexical "Direction: unreachable!()"
  -- Const: p0 annotations fp1 CONST t sp1 n sp2 "=" v fp2 ";"
  | 39 => do
    pure (.const { name := ← tokAt args 6, constType := ← asTy (← nth args 4), value := ← asStr (← nth args 9),
                   annotations := ← asAnns (← nth args 1), doc := ← getJavadoc (← locAt args 0),
                   full := ← mkRange (← locAt args 2) (← locAt args 10), sym := ← mkRange (← locAt args 5) (← locAt args 7) })
  -- Field: p0 annotations fp1 t sp1 n sp2 v fp2 ";"
  | 40 => do
    let v ← match ← asOpt (← nth args 7) with | none => pure none | some s => some <$> asStr s
    pure (.field { name := ← tokAt args 5, fieldType := ← asTy (← nth args 3), value := v,
                   annotations := ← asAnns (← nth args 1), doc := ← getJavadoc (← locAt args 0),
                   full := ← mkRange (← locAt args 2) (← locAt args 8), sym := ← mkRange (← locAt args 4) (← locAt args 6) })
  -- EnumElement: p0 annotations fp1 sp1 n sp2 v fp2
  | 41 => do
    pure (.enumEl { name := ← tokAt args 4, value := ← optTokStr (← nth args 6), doc := ← getJavadoc (← locAt args 0),
                    full := ← mkRange (← locAt args 2) (← locAt args 7), sym := ← mkRange (← locAt args 3) (← locAt args 5) })
  -- TypeVoid / Primitive / String / CharSequence: p1 n p2
  | 50 => do simpleType (← tokAt args 1) .void (← locAt args 0) (← locAt args 2)
  | 51 => do simpleType (← tokAt args 1) .primitive (← locAt args 0) (← locAt args 2)
  | 52 => do simpleType (← tokAt args 1) .string (← locAt args 0) (← locAt args 2)
  | 53 => do simpleType (← tokAt args 1) .charSequence (← locAt args 0) (← locAt args 2)
  -- TypeArray: fp1 sp1 p sp2 "[" "]" fp2
  | 54 => do
    pure (.ty (.mk "Array" .array [← asTy (← nth args 2)] (← mkRange (← locAt args 1) (← locAt args 3))
      (← mkRange (← locAt args 0) (← locAt args 6))))
  -- TypeList: fp1 sp1 LIST sp2 "<" p ">" fp2
  | 55 => do
    pure (.ty (.mk "List" .list [← asTy (← nth args 5)] (← mkRange (← locAt args 1) (← locAt args 3))
      (← mkRange (← locAt args 0) (← locAt args 7))))
  | 56 => do
    let r ← mkRange (← locAt args 0) (← locAt args 2)
    pure (.ty (.mk "List" .list [] r r))
  -- TypeMap: fp1 sp1 MAP sp2 "<" k "," v ">" fp2
  | 57 => do
    pure (.ty (.mk "Map" .map [← asTy (← nth args 5), ← asTy (← nth args 7)] (← mkRange (← locAt args 1) (← locAt args 3))
      (← mkRange (← locAt args 0) (← locAt args 9))))
  | 58 => do
    let r ← mkRange (← locAt args 0) (← locAt args 2)
    pure (.ty (.mk "Map" .map [] r r))
  -- TypeCustom: p1 n p2
  | 59 => do
    let r ← mkRange (← locAt args 0) (← locAt args 2)
    pure (.ty (.mk (← asStr (← nth args 1)) .unresolved [] r r))
  -- AnnotationList
  | 60 => do pure (.list (← flattenOpts (← nth args 0)))
  -- OptAnnotation: n v
  | 61 => do
    let ps ← match ← asOpt (← nth args 1) with
      | none => pure []
      | some l => (← asList l).mapM asAnnParamV
    pure (.some_ (.ann { name := ← tokAt args 0, keyValues := collectKeyValues ps }))
  -- AnnotationParam: k v
  | 62 => do
    let v ← match ← optTokStr (← nth args 1) with | none => pure Val.none_ | some s => pure (.some_ (.str s))
    pure (.pair (.str (← tokAt args 0)) v)
  -- Value
  | 63 | 64 | 65 | 66 => do pure (.str (← tokAt args 0))
  | 67 => pure (.str "{}")
  | 68 => pure (.str "{...}")
  | 69 => do pure (.str ((← tokAt args 0) ++ "." ++ (← tokAt args 2)))
  | _ => bad .table s!"no hand-written model for user action {id}"

/-- **Pinned**: print of the text of each action of `aidl.lalrpop` (parameter list, return type,
    body, as they appear in the generated parser) ↦ the label under which `userAction` models it.
    Maintained by hand; `Props/Parser.lean` proves that every user action of the regenerated parser
    has its print in this table. -/
def printToLabel : List (Nat × Nat) := [
  (326864026567269846, 16),
  (125778390763874804, 17),
  (1068831276667757305, 18),
  (625447452633574151, 19),
  (110293523147090352, 20),
  (48873772559323612, 100),
  (431924401957888739, 21),
  (1018420499009770065, 22),
  (686940106906402539, 23),
  (802198905057931013, 24),
  (503341102730133188, 25),
  (855372535312716722, 26),
  (801675669623029835, 27),
  (496135409898854480, 28),
  (760287090736177252, 29),
  (566208877262292002, 30),
  (763932927560328144, 31),
  (274416933327168325, 32),
  (439805824043694176, 33),
  (894425179882151566, 34),
  (306504092553922624, 35),
  (28742323683160923, 36),
  (546075267633815247, 37),
  (500174373765018579, 38),
  (772391621236230829, 39),
  (1092044875749926117, 40),
  (771643186250579265, 41),
  (552874348498895796, 50),
  (559245277331532021, 51),
  (383477504435186920, 52),
  (849509247697895698, 53),
  (72975087077864813, 54),
  (135570007246997972, 55),
  (158213800864689815, 56),
  (934216039292483773, 57),
  (819607046774342091, 58),
  (818883707206374741, 59),
  (806489104755359928, 60),
  (547374730260205440, 61),
  (1006615232140705048, 62),
  (538233472545698116, 63),
  (538233472545698116, 64),
  (538233472545698116, 65),
  (538233472545698116, 66),
  (468720023656749007, 67),
  (555942698049448886, 68),
  (926802756744696222, 69)]

/-! ### interpreter for composite / generic actions -/

def evalPrim (p : Prim) (args : List ArgV) : M Val := do
  match p with
  | .arg i => nth args i
  | .some i => do pure (.some_ (← nth args i))
  | .none => pure .none_
  | .nil => pure (.list [])
  | .sing i => do pure (.list [← nth args i])
  | .push v e => do pure (.list ((← asList (← nth args v)) ++ [← nth args e]))
  | .pushOpt v e => do
    match ← asOpt (← nth args e) with
    | none => nth args v
    | some x => pure (.list ((← asList (← nth args v)) ++ [x]))
  | .pair i j => do pure (.pair (← nth args i) (← nth args j))

structure Scope where
  locs : List (String × Nat) := []
  temps : List (String × ArgV) := []

def evalLoc (sc : Scope) (args : List ArgV) : LocExpr → M Nat
  | .param i start =>
    match args[i]? with
    | some (.triple s _ e) => pure (if start then s else e)
    | some (.locRef n) => pure n
    | none => bad .table s!"composite: missing parameter {i}"
  | .var n => match sc.locs.lookup n with
    | some v => pure v
    | none => bad .table s!"composite: unbound {n}"

def evalArg (sc : Scope) (args : List ArgV) : ArgExpr → M ArgV
  | .param i => match args[i]? with
    | some a => pure a
    | none => bad .table s!"composite: missing parameter {i}"
  | .temp n => match sc.temps.lookup n with
    | some v => pure v
    | none => bad .table s!"composite: unbound {n}"
  | .loc n => match sc.locs.lookup n with
    | some v => pure (.locRef v)
    | none => bad .table s!"composite: unbound {n}"

/-- the body of a composite action; `call` evaluates the actions it calls -/
def runStmts (call : Nat → List ArgV → M Val) (args : List ArgV) : Scope → List Stmt → M Val
  | _, [] => bad .table "composite: no result"
  | sc, .letLoc n e :: rest => do
    let v ← evalLoc sc args e
    runStmts call args { sc with locs := (n, v) :: sc.locs } rest
  | sc, .letCall n a as :: rest => do
    let vs ← as.mapM (evalArg sc args)
    let r ← call a vs
    -- bare result; `letTriple` wraps it
    runStmts call args { sc with temps := (n, .triple 0 r 0) :: sc.temps } rest
  | sc, .letTriple n s e :: rest => do
    let sv ← evalLoc sc args (.var s)
    let ev ← evalLoc sc args (.var e)
    match sc.temps.lookup n with
    | some (.triple _ v _) => runStmts call args { sc with temps := (n, .triple sv v ev) :: sc.temps } rest
    | _ => bad .table s!"composite: unbound {n}"
  | sc, .ret a as :: _ => do
    let vs ← as.mapM (evalArg sc args)
    call a vs

/-- evaluate `__action<id>`; `fuel` bounds the nesting of composite actions -/
def evalAction (defs : Array ActionDef) : Nat → Nat → List ArgV → M Val
  | 0, _, _ => bad .table "evalAction: out of fuel"
  | fuel + 1, id, args =>
    match defs[id]? with
    | none => bad .table s!"no action {id}"
    | some (.user _ print) =>
      match printToLabel.lookup print with
      | some label => userAction label args
      | none => bad .table s!"action {id}: no hand-written model for the action text with print {print}"
    | some (.prim _ p) => evalPrim p args
    | some (.composite _ body) => runStmts (evalAction defs fuel) args {} body

end Aidl.Actions
