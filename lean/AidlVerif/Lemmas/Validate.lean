import AidlVerif.Lemmas.Resolve
import AidlVerif.Lemmas.Sort
import AidlVerif.Lemmas.Oneway
import AidlVerif.Lemmas.Methods

/-!
`validate`'s per-file body taken apart: `validateGroups_eq` is the body with `resolve_types`
evaluated, `Validated` what a successful run says about each group of diagnostics, and `sel_group`
the principle by which a predicate that is false outside one group selects from the sorted whole
what it selects from that group. Every theorem about `validateFile` goes through these. The loops
of `validate` that can panic are `mapExcept`s.
-/

namespace Aidl
open Aidl.Spec

theorem mapExcept_ind {α β ε} {F : α → Except ε β} {P : List α → List β → Prop} (nil : P [] [])
    (cons : ∀ x y xs ys, F x = .ok y → P xs ys → P (x :: xs) (y :: ys)) :
    ∀ {l : List α} {r : List β}, mapExcept F l = .ok r → P l r
  | [], r, h => by
    cases h
    exact nil
  | x :: xs, r, h => by
    rw [mapExcept] at h
    cases hx : F x with
    | error e =>
      rw [hx] at h
      cases h
    | ok y =>
      rw [hx] at h
      cases hxs : mapExcept F xs with
      | error e =>
        rw [hxs] at h
        cases h
      | ok ys =>
        rw [hxs] at h
        cases h
        exact cons x y xs ys hx (mapExcept_ind nil cons hxs)

theorem mapExcept_isOk {α β ε} (F : α → Except ε β) (l : List α) :
    (∃ r, mapExcept F l = .ok r) ↔ ∀ x ∈ l, ∃ y, F x = .ok y := by
  constructor
  · rintro ⟨r, h⟩
    exact mapExcept_ind (P := fun l _ => ∀ x ∈ l, ∃ y, F x = .ok y) (fun _ h => nomatch h)
      (fun x y xs _ hx ih => List.forall_mem_cons.mpr ⟨⟨y, hx⟩, ih⟩) h
  · intro h
    induction l with
    | nil => exact ⟨[], rfl⟩
    | cons x xs ih =>
      obtain ⟨y, hy⟩ := h x (List.mem_cons_self ..)
      obtain ⟨ys, hys⟩ := ih fun z hz => h z (List.mem_cons_of_mem _ hz)
      exact ⟨y :: ys, by rw [mapExcept, hy, hys]⟩

theorem mapExcept_ok {α β ε} (F : α → Except ε β) (l : List α) (r : List β) (h : mapExcept F l = .ok r) :
    r = l.filterMap (fun x => (F x).toOption) :=
  mapExcept_ind (P := fun l r => r = l.filterMap fun x => (F x).toOption) rfl
    (fun x y _ _ hx ih => by simp [hx, Except.toOption, ih]) h

theorem mapExcept_congr {α β ε} {F G : α → Except ε β} {l : List α} (h : ∀ x ∈ l, F x = G x) :
    mapExcept F l = mapExcept G l := by
  induction l with
  | nil => rfl
  | cons x xs ih =>
    simp only [mapExcept, h x (List.mem_cons_self ..), ih fun y hy => h y (List.mem_cons_of_mem _ hy)]

theorem foldl_appendExcept {α β ε} {f : α → Except ε (List β)} {step : Except ε (List β) → α → Except ε (List β)}
    (herr : ∀ e x, step (.error e) x = .error e) (hok : ∀ ds x, step (.ok ds) x = (f x).map (ds ++ ·))
    (l : List α) (acc : List β) :
    l.foldl step (.ok acc) = (mapExcept f l).map fun dss => acc ++ dss.flatten := by
  induction l generalizing acc with
  | nil => simp [mapExcept, Except.map]
  | cons x xs ih =>
    rw [List.foldl_cons, hok, mapExcept]
    cases f x with
    | error e => exact foldl_error herr xs e
    | ok d =>
      simp only [Except.map]
      rw [ih]
      cases mapExcept f xs <;> simp [Except.map]

theorem checkContainers_eq_mapExcept (ast : AidlFile) :
    checkContainers ast = (mapExcept checkContainer (allTypesWalk ast)).map List.flatten := by
  unfold checkContainers
  rw [walkTypes_eq, foldl_appendExcept (f := checkContainer) (fun _ _ => rfl)
    (fun ds t => by cases checkContainer t <;> rfl)]
  simp only [List.nil_append]

section decomposition
variable (ho : HashOrder) (defined : Defined) (syn : List Diag) (ast : AidlFile)

/-- kind of a type node of `ast` after `resolve_types` -/
abbrev kindIn (t : Ty) : TypeKind :=
  Spec.C05.newKind (ast.imports.map Import.qname) (ast.declaredParcelables.map Import.qname) defined t

abbrev resolvedAst : AidlFile := mapTypes (kindIn defined ast) ast

/-- the `resolved` set handed to the import checks -/
abbrev resolvedSet : List String :=
  (allTypesPre ast).filterMap (fun t => resolvedKeyOfKind (kindIn defined ast t))

/-- The only partial steps are the two checks that can panic; only the two hash-ordered loops
    depend on `ho`, and only `kindIn` and `checkImports` on `defined`. -/
theorem validateGroups_eq :
    validateGroups ho defined syn ast =
      (checkContainers (resolvedAst defined ast)).bind fun d4 =>
      (checkMethods (setUpOneway (resolvedAst defined ast)).1).bind fun d6 =>
      .ok { ast := (setUpOneway (resolvedAst defined ast)).1
            syn := syn
            unknown := ((allTypesPre ast).filter
              (fun t => Spec.C05.isUnresolved (kindIn defined ast t))).map unknownTypeDiag
            imports := (checkImports ho ast.imports (resolvedSet defined ast) defined).2
            decls := checkDeclaredParcelables ho ast.declaredParcelables
              (checkImports ho ast.imports (resolvedSet defined ast) defined).1 (resolvedSet defined ast)
            containers := d4
            oneway := (setUpOneway (resolvedAst defined ast)).2
            methods := d6 } := by
  unfold validateGroups
  simp only [Props.C05.resolveTypes_eq, mapTypes_imports, mapTypes_decls]
  cases checkContainers (resolvedAst defined ast) with
  | error e => rfl
  | ok d4 => cases checkMethods (setUpOneway (resolvedAst defined ast)).1 <;> rfl

structure Validated (g : Groups) : Prop where
  ast_eq : g.ast = (setUpOneway (resolvedAst defined ast)).1
  syn_eq : g.syn = syn
  unknown_eq : g.unknown = ((allTypesPre ast).filter
    (fun t => Spec.C05.isUnresolved (kindIn defined ast t))).map unknownTypeDiag
  imports_eq : g.imports = (checkImports ho ast.imports (resolvedSet defined ast) defined).2
  decls_eq : g.decls = checkDeclaredParcelables ho ast.declaredParcelables
    (checkImports ho ast.imports (resolvedSet defined ast) defined).1 (resolvedSet defined ast)
  containers_ok : checkContainers (resolvedAst defined ast) = .ok g.containers
  oneway_eq : g.oneway = (setUpOneway (resolvedAst defined ast)).2
  methods_ok : checkMethods g.ast = .ok g.methods

variable {ho defined syn ast}

theorem validated {g : Groups} (hg : validateGroups ho defined syn ast = .ok g) :
    Validated ho defined syn ast g := by
  rw [validateGroups_eq] at hg
  cases h4 : checkContainers (resolvedAst defined ast) with
  | error e =>
    rw [h4] at hg
    cases hg
  | ok d4 =>
    cases h6 : checkMethods (setUpOneway (resolvedAst defined ast)).1 with
    | error e =>
      rw [h4, h6] at hg
      cases hg
    | ok d6 =>
      rw [h4, h6] at hg
      cases hg
      exact ⟨rfl, rfl, rfl, rfl, rfl, h4, rfl, h6⟩

theorem validateGroups_isOk :
    (∃ g, validateGroups ho defined syn ast = .ok g) ↔
      (∃ d, checkContainers (resolvedAst defined ast) = .ok d)
      ∧ ∃ d, checkMethods (setUpOneway (resolvedAst defined ast)).1 = .ok d := by
  rw [validateGroups_eq]
  cases checkContainers (resolvedAst defined ast) with
  | error e => simp [Except.bind]
  | ok d4 => cases checkMethods (setUpOneway (resolvedAst defined ast)).1 <;> simp [Except.bind]

theorem Validated.imports_ast {g : Groups} (V : Validated ho defined syn ast g) :
    g.ast.imports = ast.imports := by
  rw [V.ast_eq, setUpOneway_imports, mapTypes_imports]

theorem Validated.decls_ast {g : Groups} (V : Validated ho defined syn ast g) :
    g.ast.declaredParcelables = ast.declaredParcelables := by
  rw [V.ast_eq, setUpOneway_decls, mapTypes_decls]

end decomposition

theorem validateFile_eq_ok {ho : HashOrder} {defined : Defined} {fr out : FileResult}
    (h : validateFile ho defined fr = .ok out) :
    (fr.ast = none ∧ out = fr) ∨
    ∃ ast g, fr.ast = some ast ∧ validateGroups ho defined fr.diags ast = .ok g
      ∧ out = { id := fr.id, ast := some g.ast, diags := sortDiags g.all } := by
  unfold validateFile at h
  cases hast : fr.ast with
  | none =>
    simp only [hast] at h
    cases h
    exact Or.inl ⟨rfl, rfl⟩
  | some ast =>
    simp only [hast] at h
    cases hg : validateGroups ho defined fr.diags ast with
    | error e =>
      simp only [hg] at h
      cases h
    | ok g =>
      simp only [hg] at h
      cases h
      exact Or.inr ⟨ast, g, rfl, hg, rfl⟩

theorem sel_group {p : Diag → Bool} {all others grp : List Diag}
    (hperm : all.Perm (others ++ grp)) (fresh : ∀ d ∈ others, p d = false) :
    ((sortDiags all).filter p).Perm (grp.filter p) := by
  refine (((sortDiags_perm all).trans hperm).filter p).trans ?_
  rw [List.filter_append, List.filter_eq_nil_iff.mpr (by simpa using fresh), List.nil_append]

theorem countP_group {p : Diag → Bool} {all others grp : List Diag}
    (hperm : all.Perm (others ++ grp)) (fresh : ∀ d ∈ others, p d = false) :
    (sortDiags all).countP p = grp.countP p := by
  rw [List.countP_eq_length_filter, List.countP_eq_length_filter, (sel_group hperm fresh).length_eq]

theorem perm_move_last {α} (a : List α) (pre mid post : List (List α)) :
    ((pre ++ mid ++ post).foldl (· ++ ·) a).Perm ((pre ++ post).foldl (· ++ ·) a ++ mid.foldl (· ++ ·) []) := by
  have flat : ∀ (a : List α) (l : List (List α)), l.foldl (· ++ ·) a = a ++ l.flatten := fun a l => by
    simpa using List.foldl_append_eq_append (f := id) (l := l) (l' := a)
  simp only [flat, List.flatten_append, List.append_assoc, List.nil_append]
  exact (List.perm_append_comm.append_left _).append_left _

/-! `Groups.all` with the diagnostics of one step last; in front, the list the `Fresh` of that step's
    property speaks of. Instances of `perm_move_last`: the folds compute to the `++` written here. -/

theorem Groups.all_perm_unknown (g : Groups) :
    g.all.Perm ((g.syn ++ g.imports ++ g.decls ++ g.containers ++ g.oneway ++ g.methods) ++ g.unknown) :=
  perm_move_last g.syn [] [g.unknown] [g.imports, g.decls, g.containers, g.oneway, g.methods]

theorem Groups.all_perm_stmts (g : Groups) :
    g.all.Perm ((g.syn ++ g.unknown ++ g.containers ++ g.oneway ++ g.methods) ++ (g.imports ++ g.decls)) :=
  perm_move_last g.syn [g.unknown] [g.imports, g.decls] [g.containers, g.oneway, g.methods]

theorem Groups.all_perm_containers (g : Groups) :
    g.all.Perm ((g.syn ++ g.unknown ++ g.imports ++ g.decls ++ g.oneway ++ g.methods) ++ g.containers) :=
  perm_move_last g.syn [g.unknown, g.imports, g.decls] [g.containers] [g.oneway, g.methods]

theorem Groups.all_perm_oneway (g : Groups) :
    g.all.Perm ((g.syn ++ g.unknown ++ g.imports ++ g.decls ++ g.containers ++ g.methods) ++ g.oneway) :=
  perm_move_last g.syn [g.unknown, g.imports, g.decls, g.containers] [g.oneway] [g.methods]

/-! The group of `check_methods` holds three kinds of diagnostics, interleaved. -/

theorem flatMap_append_perm {α β} (f g : α → List β) (l : List α) :
    (l.flatMap (fun x => f x ++ g x)).Perm (l.flatMap f ++ l.flatMap g) := by
  induction l with
  | nil => simp
  | cons x xs ih =>
    simp only [List.flatMap_cons, List.append_assoc]
    exact ((ih.append_left (g x)).trans (List.perm_append_comm_assoc ..)).append_left (f x)

def Groups.othersThanArgs (g : Groups) (ids : List Diag) : List Diag :=
  g.syn ++ g.unknown ++ g.imports ++ g.decls ++ g.containers ++ g.oneway
    ++ (methodsOf g.ast).flatMap returnDiags ++ ids

/-- the whole with one kind moved last: the argument diagnostics (`C07.holds`, whose `Fresh` speaks of
    `othersThanArgs`), then the return-type diagnostics (`C10.holds`) -/
theorem groups_perm {g : Groups} (h : checkMethods g.ast = .ok g.methods) :
    ∃ ids, idDiagsLoop {} (methodsOf g.ast) = .ok ids
      ∧ g.all.Perm (g.othersThanArgs ids ++ argDiags g.ast)
      ∧ g.all.Perm ((g.syn ++ g.unknown ++ g.imports ++ g.decls ++ g.containers ++ g.oneway ++ argDiags g.ast ++ ids)
          ++ (methodsOf g.ast).flatMap returnDiags) := by
  obtain ⟨ids, hids, hperm⟩ := checkMethods_perm g.ast g.methods h
  have hall : g.all.Perm (g.syn ++ g.unknown ++ g.imports ++ g.decls ++ g.containers ++ g.oneway
      ++ (methodsOf g.ast).flatMap returnDiags ++ argDiags g.ast ++ ids) := by
    refine List.perm_iff_count.mpr fun d => ?_
    have h1 := (hperm.trans ((flatMap_append_perm returnDiags checkMethodArgs _).append_right ids)).count_eq d
    simp only [Groups.all, argDiags, List.count_append] at h1 ⊢
    omega
  exact ⟨ids, hids,
    hall.trans (perm_move_last g.syn [g.unknown, g.imports, g.decls, g.containers, g.oneway,
      (methodsOf g.ast).flatMap returnDiags] [argDiags g.ast] [ids]),
    hall.trans (perm_move_last g.syn [g.unknown, g.imports, g.decls, g.containers, g.oneway]
      [(methodsOf g.ast).flatMap returnDiags] [argDiags g.ast, ids])⟩

end Aidl
