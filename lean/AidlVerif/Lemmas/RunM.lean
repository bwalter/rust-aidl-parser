import AidlVerif.Model.Actions

/-! `runM` equations for the action monad `M`, and `Wp`: the unary logics of actions (`Safe`, `Pur`, `PurE`, `Tri`) spell
out its `match` with their own postconditions, so their `bind` and `mono` rules are `Wp`'s. The namespace is that of
`Props/ParseLevel.lean`, whose theorems (`mkRange_ok`, `fromParseError_ok`, …) are stated with `runM`. -/

namespace Aidl.Props.PL
open Aidl Aidl.Actions Aidl.Lexer

def runM {α} (x : M α) (env : Env) (ds : List Diag) : Except Panic (α × List Diag) := (x.run env).run ds

theorem runM_bind {α β} (x : M α) (f : α → M β) (env : Env) (ds : List Diag) :
    runM (x >>= f) env ds = match runM x env ds with
      | .error e => .error e
      | .ok (a, ds') => runM (f a) env ds' := by
  simp only [runM, ReaderT.run_bind, StateT.run_bind]
  cases h : (x.run env).run ds <;> rfl
theorem runM_bind_ok {α β} {x : M α} {f : α → M β} {env : Env} {ds ds' : List Diag} {b : β}
    (h : runM (x >>= f) env ds = .ok (b, ds')) : ∃ a d, runM x env ds = .ok (a, d) ∧ runM (f a) env d = .ok (b, ds') := by
  rw [runM_bind] at h
  cases hx : runM x env ds with
  | error p => rw [hx] at h; cases h
  | ok r => rw [hx] at h; exact ⟨r.1, r.2, rfl, h⟩
theorem runM_pure {α} (a : α) (env : Env) (ds : List Diag) : runM (pure a : M α) env ds = .ok (a, ds) := rfl
theorem runM_read (env : Env) (ds : List Diag) : runM (read : M Env) env ds = .ok (env, ds) := rfl
theorem runM_throw {α} (m : Panic) (env : Env) (ds : List Diag) : runM (throw m : M α) env ds = .error m := rfl
theorem runM_bad {α} (k : PanicKind) (m : String) (env : Env) (ds : List Diag) : runM (bad k m : M α) env ds = .error ⟨k, m⟩ := rfl
theorem runM_pushDiag (d : Diag) (env : Env) (ds : List Diag) : runM (pushDiag d) env ds = .ok ((), ds ++ [d]) := rfl

def Wp {α} (x : M α) (env : Env) (ds : List Diag) (Q : α → List Diag → Prop) (Err : Panic → Prop) : Prop :=
  match runM x env ds with
  | .ok (a, ds') => Q a ds'
  | .error p => Err p

theorem Wp.bind {α β} {x : M α} {f : α → M β} {env : Env} {ds : List Diag} {Q : β → List Diag → Prop} {Err : Panic → Prop}
    (h : Wp x env ds (fun a ds' => Wp (f a) env ds' Q Err) Err) : Wp (x >>= f) env ds Q Err := by
  unfold Wp at h ⊢
  rw [runM_bind]
  cases hr : runM x env ds with
  | error p => rw [hr] at h; exact h
  | ok r => rw [hr] at h; exact h

theorem Wp.mono {α} {x : M α} {env : Env} {ds : List Diag} {Q Q' : α → List Diag → Prop} {Err : Panic → Prop}
    (h : Wp x env ds Q Err) (hq : ∀ a ds', Q a ds' → Q' a ds') : Wp x env ds Q' Err := by
  unfold Wp at h ⊢
  cases hr : runM x env ds with
  | error p => rw [hr] at h; exact h
  | ok r => rw [hr] at h; exact hq _ _ h

theorem mkPos_eq (env : Env) (ds : List Diag) (off : Nat) :
    runM (mkPos off) env ds =
      match env.lineCol off with
      | some lc => .ok ({ off := off, line := lc.1, col := lc.2 }, ds)
      | none => .error ⟨.bounds, s!"Range::new: offset {off} is not a character boundary inside the input"⟩ := by
  unfold mkPos
  simp only [runM_bind, runM_read]
  cases env.lineCol off <;> rfl

end Aidl.Props.PL
