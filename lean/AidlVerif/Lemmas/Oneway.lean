import AidlVerif.Lemmas.Types

/-!
`set_up_oneway_interface`: what it does to a method, to the methods of an interface
(`Interface.methods` is a `filterMap` over the elements, so `filterMap_map` / `map_filterMap` carry
a fact about one element to the list), and to a file.
-/

namespace Aidl
open Aidl.Spec

def onewayWarning (i : Interface) (m : Method) : Diag :=
  mkDiag .warning m.onewayRange
    ("Method `" ++ m.name ++ "` of oneway interface does not need to be marked as oneway")
    (some "redundant oneway") none [{ message := "oneway interface", range := i.sym }]

theorem setUpOnewayMethod_fst (i : Interface) (m : Method) :
    (setUpOnewayMethod i m).1 = { m with oneway := true } := by
  unfold setUpOnewayMethod
  split
  · rename_i h; cases m; simp_all
  · rfl

theorem setUpOnewayMethod_snd (i : Interface) (m : Method) :
    (setUpOnewayMethod i m).2 = if m.oneway then [onewayWarning i m] else [] := by
  unfold setUpOnewayMethod onewayWarning
  split <;> simp_all

theorem setUpOnewayInterface_methods (i : Interface) (h : i.oneway = true) :
    (setUpOnewayInterface i).1.methods = i.methods.map (fun m => { m with oneway := true }) := by
  unfold setUpOnewayInterface
  simp only [h, Bool.not_true, Bool.false_eq_true, if_false, Interface.methods, List.map_map, List.filterMap_map,
    List.map_filterMap]
  congr 1
  funext el
  cases el with
  | const c => rfl
  | method m => simp [setUpOnewayElement, setUpOnewayMethod_fst]

theorem setUpOnewayInterface_oneway (i : Interface) : (setUpOnewayInterface i).1.oneway = i.oneway := by
  unfold setUpOnewayInterface
  split <;> rfl

theorem setUpOnewayInterface_diags (i : Interface) (h : i.oneway = true) :
    (setUpOnewayInterface i).2 = (i.methods.filter (·.oneway)).map (onewayWarning i) := by
  unfold setUpOnewayInterface
  simp only [h, Bool.not_true, Bool.false_eq_true, if_false, Interface.methods, List.flatMap_map]
  generalize i.elements = els
  induction els with
  | nil => rfl
  | cons el els ih =>
    cases el with
    | const c => simpa [setUpOnewayElement, List.filterMap_cons] using ih
    | method m =>
      have hel : (setUpOnewayElement i (.method m)).2 = if m.oneway then [onewayWarning i m] else [] := by
        simp [setUpOnewayElement, setUpOnewayMethod_snd]
      simp only [List.flatMap_cons, hel, List.filterMap_cons, ih]
      by_cases hm : m.oneway = true <;> simp [hm]

theorem methodsOf_setUpOneway (x : AidlFile) :
    methodsOf (setUpOneway x).1 =
      if interfaceOneway x then (methodsOf x).map (fun m => { m with oneway := true }) else methodsOf x := by
  unfold setUpOneway methodsOf interfaceOneway
  cases hitem : x.item with
  | interface i =>
    simp only
    by_cases h : i.oneway = true
    · simp [h, setUpOnewayInterface_methods i h]
    · have h' : i.oneway = false := by simpa using h
      simp [setUpOnewayInterface, h']
  | parcelable p => simp [hitem]
  | enum e => simp [hitem]

theorem interfaceOneway_setUpOneway (x : AidlFile) : interfaceOneway (setUpOneway x).1 = interfaceOneway x := by
  unfold setUpOneway interfaceOneway
  cases hitem : x.item with
  | interface i => simp [setUpOnewayInterface_oneway]
  | parcelable p => simp [hitem]
  | enum e => simp [hitem]

theorem setUpOneway_all_oneway (ast : AidlFile) :
    ∀ m ∈ methodsOf (setUpOneway ast).1, interfaceOneway (setUpOneway ast).1 = true → m.oneway = true := by
  intro m hm hi
  rw [interfaceOneway_setUpOneway] at hi
  rw [methodsOf_setUpOneway, hi, if_pos rfl] at hm
  obtain ⟨m0, _, rfl⟩ := List.mem_map.mp hm
  rfl

theorem setUpOneway_diags (x : AidlFile) :
    (setUpOneway x).2 = match x.item with
      | .interface i => if i.oneway then (i.methods.filter (·.oneway)).map (onewayWarning i) else []
      | _ => [] := by
  unfold setUpOneway
  cases hitem : x.item with
  | interface i =>
    simp only
    by_cases h : i.oneway = true
    · simp [h, setUpOnewayInterface_diags i h]
    · have h' : i.oneway = false := by simpa using h
      simp [setUpOnewayInterface, h']
  | parcelable p => rfl
  | enum e => rfl

theorem setUpOneway_imports (x : AidlFile) : (setUpOneway x).1.imports = x.imports := by
  unfold setUpOneway
  cases x.item <;> rfl

theorem setUpOneway_decls (x : AidlFile) :
    (setUpOneway x).1.declaredParcelables = x.declaredParcelables := by
  unfold setUpOneway
  cases x.item <;> rfl

theorem setUpOnewayElement_topTypes (i : Interface) (el : InterfaceElement) :
    (setUpOnewayElement i el).1.topTypes = el.topTypes := by
  cases el with
  | const c => rfl
  | method m =>
    simp only [setUpOnewayElement, InterfaceElement.topTypes, setUpOnewayMethod]
    split <;> rfl

theorem topTypes_setUpOneway (ast : AidlFile) : topTypes (setUpOneway ast).1 = topTypes ast := by
  unfold setUpOneway topTypes
  cases h : ast.item with
  | interface i =>
    simp only [setUpOnewayInterface]
    split
    · simp
    · simp only [List.map_map, List.flatMap_map]
      congr 1
      funext el
      exact setUpOnewayElement_topTypes i el
  | parcelable p => simp [h]
  | enum e => simp [h]

theorem allTypesPre_setUpOneway (ast : AidlFile) : allTypesPre (setUpOneway ast).1 = allTypesPre ast := by
  unfold allTypesPre; rw [topTypes_setUpOneway]

theorem allTypesWalk_setUpOneway (ast : AidlFile) : allTypesWalk (setUpOneway ast).1 = allTypesWalk ast := by
  unfold allTypesWalk; rw [topTypes_setUpOneway]

end Aidl
