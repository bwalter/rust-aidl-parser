import AidlVerif.Spec.Common

/-!
Declarative descriptions of the type walkers:

* `Ty.preorder` / `allTypesPre` — the order of `walk_types_mut` (node, then its generic types);
* `Ty.walkOrder` / `allTypesWalk` — the order of `walk_types` (array: element first);
* `Ty.mapKind` / `mapTypes` — node-wise rewrite of `kind` at every depth.
-/

namespace Aidl

mutual
def Ty.preorder : Ty → List Ty
  | .mk n k g s f => .mk n k g s f :: Ty.preorderList g
def Ty.preorderList : List Ty → List Ty
  | [] => []
  | t :: ts => Ty.preorder t ++ Ty.preorderList ts
end

mutual
def Ty.walkOrder : Ty → List Ty
  | .mk n k g s f =>
    if k = .array then Ty.walkOrderList g ++ [.mk n k g s f] else .mk n k g s f :: Ty.walkOrderList g
def Ty.walkOrderList : List Ty → List Ty
  | [] => []
  | t :: ts => Ty.walkOrder t ++ Ty.walkOrderList ts
end

mutual
def Ty.mapKind (h : Ty → TypeKind) : Ty → Ty
  | .mk n k g s f => .mk n (h (.mk n k g s f)) (Ty.mapKindList h g) s f
def Ty.mapKindList (h : Ty → TypeKind) : List Ty → List Ty
  | [] => []
  | t :: ts => Ty.mapKind h t :: Ty.mapKindList h ts
end

theorem Ty.preorderList_eq (l : List Ty) : Ty.preorderList l = l.flatMap Ty.preorder := by
  induction l with
  | nil => rfl
  | cons t ts ih => simp [Ty.preorderList, ih]

theorem Ty.walkOrderList_eq (l : List Ty) : Ty.walkOrderList l = l.flatMap Ty.walkOrder := by
  induction l with
  | nil => rfl
  | cons t ts ih => simp [Ty.walkOrderList, ih]

theorem Ty.mapKindList_eq (h : Ty → TypeKind) (l : List Ty) : Ty.mapKindList h l = l.map (Ty.mapKind h) := by
  induction l with
  | nil => rfl
  | cons t ts ih => simp [Ty.mapKindList, ih]

section walkMut
variable {σ : Type} (f : σ → Ty → σ × TypeKind) (u : σ → Ty → σ) (h : Ty → TypeKind)
  (hf : ∀ s t, f s t = (u s t, h t))
include hf

mutual
theorem Ty.walkMut_eq (s : σ) : (t : Ty) →
    Ty.walkMut f s t = ((Ty.preorder t).foldl u s, Ty.mapKind h t)
  | .mk n k g sy fu => by
    simp only [Ty.walkMut, Ty.preorder, Ty.mapKind, List.foldl_cons, hf]
    rw [Ty.walkMutList_eq (u s (.mk n k g sy fu)) g]
theorem Ty.walkMutList_eq (s : σ) : (l : List Ty) →
    Ty.walkMutList f s l = ((Ty.preorderList l).foldl u s, Ty.mapKindList h l)
  | [] => by simp [Ty.walkMutList, Ty.preorderList, Ty.mapKindList]
  | t :: ts => by
    simp only [Ty.walkMutList, Ty.preorderList, Ty.mapKindList, List.foldl_append]
    rw [Ty.walkMut_eq s t]
    simp only
    rw [Ty.walkMutList_eq _ ts]
end

end walkMut

mutual
theorem Ty.walk_eq {σ} (f : σ → Ty → σ) (s : σ) : (t : Ty) →
    Ty.walk f s t = (Ty.walkOrder t).foldl f s
  | .mk n k g sy fu => by
    simp only [Ty.walk, Ty.walkOrder]
    split
    · rw [Ty.walkList_eq f s g]; simp [List.foldl_append]
    · rw [Ty.walkList_eq f _ g]; simp
theorem Ty.walkList_eq {σ} (f : σ → Ty → σ) (s : σ) : (l : List Ty) →
    Ty.walkList f s l = (Ty.walkOrderList l).foldl f s
  | [] => by simp [Ty.walkList, Ty.walkOrderList]
  | t :: ts => by
    simp only [Ty.walkList, Ty.walkOrderList, List.foldl_append]
    rw [Ty.walk_eq f s t, Ty.walkList_eq f _ ts]
end

def Method.topTypes (m : Method) : List Ty := m.returnType :: m.args.map (·.argType)

def InterfaceElement.topTypes : InterfaceElement → List Ty
  | .method m => m.topTypes
  | .const c => [c.constType]

def ParcelableElement.topTypes : ParcelableElement → List Ty
  | .field f => [f.fieldType]
  | .const c => [c.constType]

def topTypes (ast : AidlFile) : List Ty :=
  match ast.item with
  | .interface i => i.elements.flatMap InterfaceElement.topTypes
  | .parcelable p => p.elements.flatMap ParcelableElement.topTypes
  | .enum _ => []

def allTypesPre (ast : AidlFile) : List Ty := (topTypes ast).flatMap Ty.preorder

def allTypesWalk (ast : AidlFile) : List Ty := (topTypes ast).flatMap Ty.walkOrder

mutual
theorem Ty.walkOrder_perm : (t : Ty) → (Ty.walkOrder t).Perm (Ty.preorder t)
  | .mk n k g sy fu => by
    simp only [Ty.walkOrder, Ty.preorder]
    split
    · exact (List.perm_append_singleton _ _).trans ((Ty.walkOrderList_perm g).cons _)
    · exact (Ty.walkOrderList_perm g).cons _
theorem Ty.walkOrderList_perm : (l : List Ty) → (Ty.walkOrderList l).Perm (Ty.preorderList l)
  | [] => .refl _
  | t :: ts => (Ty.walkOrder_perm t).append (Ty.walkOrderList_perm ts)
end

theorem Ty.mem_walkOrderList_of_preorderList (u : Ty) : (l : List Ty) → u ∈ Ty.preorderList l → u ∈ Ty.walkOrderList l :=
  fun l h => (Ty.walkOrderList_perm l).mem_iff.mpr h

theorem mem_allTypesWalk_of_pre (ast : AidlFile) (u : Ty) (h : u ∈ allTypesPre ast) : u ∈ allTypesWalk ast := by
  unfold allTypesPre at h
  unfold allTypesWalk
  obtain ⟨t, ht, hu⟩ := List.mem_flatMap.mp h
  exact List.mem_flatMap.mpr ⟨t, ht, (Ty.walkOrder_perm t).mem_iff.mpr hu⟩

theorem InterfaceElement.walkTypes_eq {σ} (f : σ → Ty → σ) (s : σ) (el : InterfaceElement) :
    el.walkTypes f s = (el.topTypes.flatMap Ty.walkOrder).foldl f s := by
  cases el with
  | const c => simp [InterfaceElement.walkTypes, InterfaceElement.topTypes, Ty.walk_eq]
  | method m =>
    simp only [InterfaceElement.walkTypes, InterfaceElement.topTypes, Method.topTypes,
      List.flatMap_cons, List.foldl_append, Ty.walk_eq, List.flatMap_map]
    exact List.foldl_flatMap.symm

theorem ParcelableElement.walkTypes_eq {σ} (f : σ → Ty → σ) (s : σ) (el : ParcelableElement) :
    el.walkTypes f s = (el.topTypes.flatMap Ty.walkOrder).foldl f s := by
  cases el with
  | const c => simp [ParcelableElement.walkTypes, ParcelableElement.topTypes, Ty.walk_eq]
  | field fi => simp [ParcelableElement.walkTypes, ParcelableElement.topTypes, Ty.walk_eq]

theorem walkTypes_eq {σ} (ast : AidlFile) (f : σ → Ty → σ) (s : σ) :
    walkTypes ast f s = (allTypesWalk ast).foldl f s := by
  unfold walkTypes allTypesWalk topTypes
  cases ast.item with
  | interface i =>
    simp only [InterfaceElement.walkTypes_eq, List.flatMap_assoc]
    exact List.foldl_flatMap.symm
  | parcelable p =>
    simp only [ParcelableElement.walkTypes_eq, List.flatMap_assoc]
    exact List.foldl_flatMap.symm
  | enum e => rfl

def Arg.mapTypes (h : Ty → TypeKind) (a : Arg) : Arg := { a with argType := Ty.mapKind h a.argType }

def Method.mapTypes (h : Ty → TypeKind) (m : Method) : Method :=
  { m with returnType := Ty.mapKind h m.returnType, args := m.args.map (Arg.mapTypes h) }

def InterfaceElement.mapTypes (h : Ty → TypeKind) : InterfaceElement → InterfaceElement
  | .method m => .method (m.mapTypes h)
  | .const c => .const { c with constType := Ty.mapKind h c.constType }

def ParcelableElement.mapTypes (h : Ty → TypeKind) : ParcelableElement → ParcelableElement
  | .field fi => .field { fi with fieldType := Ty.mapKind h fi.fieldType }
  | .const c => .const { c with constType := Ty.mapKind h c.constType }

def mapTypes (h : Ty → TypeKind) (ast : AidlFile) : AidlFile :=
  match ast.item with
  | .interface i => { ast with item := .interface { i with elements := i.elements.map (InterfaceElement.mapTypes h) } }
  | .parcelable p => { ast with item := .parcelable { p with elements := p.elements.map (ParcelableElement.mapTypes h) } }
  | .enum _ => ast

theorem mapAccum_eq {α β γ σ} (g : σ → α → σ × β) (u : σ → γ → σ) (tys : α → List γ) (m : α → β)
    (hg : ∀ s x, g s x = ((tys x).foldl u s, m x)) (s : σ) (l : List α) :
    mapAccum g s l = ((l.flatMap tys).foldl u s, l.map m) := by
  induction l generalizing s with
  | nil => rfl
  | cons x xs ih => simp [mapAccum, hg, ih, List.foldl_append]

section walkMutFile
variable {σ : Type} (f : σ → Ty → σ × TypeKind) (u : σ → Ty → σ) (h : Ty → TypeKind)
  (hf : ∀ s t, f s t = (u s t, h t))
include hf

theorem Arg.walkTypesMut_eq (s : σ) (a : Arg) :
    Arg.walkTypesMut f s a = ((Ty.preorder a.argType).foldl u s, a.mapTypes h) := by
  simp [Arg.walkTypesMut, Arg.mapTypes, Ty.walkMut_eq f u h hf]

theorem InterfaceElement.walkTypesMut_eq (s : σ) (el : InterfaceElement) :
    el.walkTypesMut f s = ((el.topTypes.flatMap Ty.preorder).foldl u s, el.mapTypes h) := by
  cases el with
  | const c =>
    simp [InterfaceElement.walkTypesMut, InterfaceElement.topTypes, InterfaceElement.mapTypes,
      Ty.walkMut_eq f u h hf]
  | method m =>
    simp only [InterfaceElement.walkTypesMut, InterfaceElement.topTypes, InterfaceElement.mapTypes,
      Method.topTypes, Method.mapTypes, Ty.walkMut_eq f u h hf, List.flatMap_cons, List.foldl_append]
    rw [mapAccum_eq (Arg.walkTypesMut f) u (fun a => Ty.preorder a.argType) (Arg.mapTypes h)
      (Arg.walkTypesMut_eq f u h hf)]
    simp [List.flatMap_map]

theorem ParcelableElement.walkTypesMut_eq (s : σ) (el : ParcelableElement) :
    el.walkTypesMut f s = ((el.topTypes.flatMap Ty.preorder).foldl u s, el.mapTypes h) := by
  cases el with
  | const c =>
    simp [ParcelableElement.walkTypesMut, ParcelableElement.topTypes, ParcelableElement.mapTypes,
      Ty.walkMut_eq f u h hf]
  | field fi =>
    simp [ParcelableElement.walkTypesMut, ParcelableElement.topTypes, ParcelableElement.mapTypes,
      Ty.walkMut_eq f u h hf]

theorem walkTypesMut_eq (ast : AidlFile) (s : σ) :
    walkTypesMut ast f s = ((allTypesPre ast).foldl u s, mapTypes h ast) := by
  unfold walkTypesMut allTypesPre topTypes mapTypes
  cases ast.item with
  | interface i =>
    simp only
    rw [mapAccum_eq (InterfaceElement.walkTypesMut f) u (fun el => el.topTypes.flatMap Ty.preorder)
      (InterfaceElement.mapTypes h) (InterfaceElement.walkTypesMut_eq f u h hf)]
    simp [List.flatMap_assoc]
  | parcelable p =>
    simp only
    rw [mapAccum_eq (ParcelableElement.walkTypesMut f) u (fun el => el.topTypes.flatMap Ty.preorder)
      (ParcelableElement.mapTypes h) (ParcelableElement.walkTypesMut_eq f u h hf)]
    simp [List.flatMap_assoc]
  | enum e => rfl

end walkMutFile

mutual
theorem Ty.preorder_mapKind (h : Ty → TypeKind) : (t : Ty) →
    Ty.preorder (Ty.mapKind h t) = (Ty.preorder t).map (fun x => Ty.mapKind h x)
  | .mk n k g s f => by
    simp only [Ty.mapKind, Ty.preorder, List.map_cons]
    rw [Ty.preorderList_mapKind h g]
theorem Ty.preorderList_mapKind (h : Ty → TypeKind) : (l : List Ty) →
    Ty.preorderList (Ty.mapKindList h l) = (Ty.preorderList l).map (fun x => Ty.mapKind h x)
  | [] => by simp [Ty.mapKindList, Ty.preorderList]
  | t :: ts => by
    simp only [Ty.mapKindList, Ty.preorderList, List.map_append]
    rw [Ty.preorder_mapKind h t, Ty.preorderList_mapKind h ts]
end

theorem Ty.mapKind_name (h : Ty → TypeKind) (t : Ty) : (Ty.mapKind h t).name = t.name := by
  cases t; rfl
theorem Ty.mapKind_sym (h : Ty → TypeKind) (t : Ty) : (Ty.mapKind h t).sym = t.sym := by
  cases t; rfl
theorem Ty.mapKind_kind (h : Ty → TypeKind) (t : Ty) : (Ty.mapKind h t).kind = h t := by
  cases t; rfl

theorem topTypes_mapTypes (h : Ty → TypeKind) (ast : AidlFile) :
    topTypes (mapTypes h ast) = (topTypes ast).map (Ty.mapKind h) := by
  unfold topTypes mapTypes
  cases hitem : ast.item with
  | interface i =>
    simp only [List.flatMap_map, List.map_flatMap]
    congr 1
    funext el
    cases el with
    | const c => simp [InterfaceElement.mapTypes, InterfaceElement.topTypes]
    | method m =>
      simp [InterfaceElement.mapTypes, InterfaceElement.topTypes, Method.mapTypes, Method.topTypes,
        Arg.mapTypes, Function.comp_def]
  | parcelable p =>
    simp only [List.flatMap_map, List.map_flatMap]
    congr 1
    funext el
    cases el with
    | const c => simp [ParcelableElement.mapTypes, ParcelableElement.topTypes]
    | field fi => simp [ParcelableElement.mapTypes, ParcelableElement.topTypes]
  | enum e => simp [*]

theorem allTypesPre_mapTypes (h : Ty → TypeKind) (ast : AidlFile) :
    allTypesPre (mapTypes h ast) = (allTypesPre ast).map (fun x => Ty.mapKind h x) := by
  unfold allTypesPre
  rw [topTypes_mapTypes, List.flatMap_map, List.map_flatMap]
  congr 1
  funext t
  exact Ty.preorder_mapKind h t

theorem mapTypes_imports (h : Ty → TypeKind) (ast : AidlFile) : (mapTypes h ast).imports = ast.imports := by
  unfold mapTypes
  cases ast.item <;> rfl

theorem mapTypes_decls (h : Ty → TypeKind) (ast : AidlFile) :
    (mapTypes h ast).declaredParcelables = ast.declaredParcelables := by
  unfold mapTypes
  cases ast.item <;> rfl

theorem sublist_flatMap {α β} {l₁ l₂ : List α} {f g : α → List β} (hl : l₁.Sublist l₂)
    (hfg : ∀ x, (f x).Sublist (g x)) : (l₁.flatMap f).Sublist (l₂.flatMap g) := by
  induction hl with
  | slnil => exact .slnil
  | cons a _ ih =>
    rw [List.flatMap_cons]
    exact ih.trans (List.sublist_append_right _ _)
  | cons_cons a _ ih =>
    rw [List.flatMap_cons, List.flatMap_cons]
    exact (hfg a).append ih

end Aidl
