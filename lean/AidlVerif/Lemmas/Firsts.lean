import AidlVerif.Model.Validation

/-! First occurrences of a key in a list, and the association list a `HashMap::entry` fold builds. -/

namespace Aidl

def firstsAux {α} (key : α → String) (seen : List String) : List α → List α
  | [] => []
  | x :: xs => if seen.contains (key x) then firstsAux key seen xs else x :: firstsAux key (key x :: seen) xs

def firsts {α} (key : α → String) (l : List α) : List α := firstsAux key [] l

theorem firstsAux_append {α} (key : α → String) (seen : List String) (pre : List α) (m : α) :
    firstsAux key seen (pre ++ [m]) =
      firstsAux key seen pre ++ (if seen.contains (key m) || pre.any (fun p => key p == key m) then [] else [m]) := by
  induction pre generalizing seen with
  | nil => simp [firstsAux]
  | cons p ps ih =>
    simp only [List.cons_append, firstsAux, ih, List.any_cons, List.contains_cons]
    by_cases hpm : key p = key m
    · rw [← hpm]
      split
      · rename_i hp
        simp only [hp, Bool.true_or, if_true]
      · simp only [beq_self_eq_true, Bool.true_or, Bool.or_true, if_true, List.cons_append]
    · have h1 : (key p == key m) = false := beq_false_of_ne hpm
      have h2 : (key m == key p) = false := beq_false_of_ne fun h => hpm h.symm
      simp only [h1, h2, Bool.false_or]
      split <;> rfl

theorem firsts_snoc {α} (key : α → String) (pre : List α) (m : α) :
    firsts key (pre ++ [m]) = firsts key pre ++ (if pre.any (fun p => key p == key m) then [] else [m]) := by
  unfold firsts; rw [firstsAux_append]; simp

theorem find_firstsAux {α} (key : α → String) (seen : List String) (pre : List α) (n : String)
    (hn : seen.contains n = false) :
    (firstsAux key seen pre).find? (fun p => key p == n) = pre.find? (fun p => key p == n) := by
  induction pre generalizing seen with
  | nil => rfl
  | cons p ps ih =>
    have hn' : n ∉ seen := by simpa using hn
    simp only [firstsAux]
    by_cases h : key p = n
    · subst h
      simp [hn']
    · have h' : ¬ n = key p := fun e => h e.symm
      split
      · simp [h, ih seen hn]
      · simp [h, ih (key p :: seen) (by simp [hn', h'])]

theorem find_firsts {α} (key : α → String) (pre : List α) (n : String) :
    (firsts key pre).find? (fun p => key p == n) = pre.find? (fun p => key p == n) :=
  find_firstsAux key [] pre n rfl

theorem lookup_keyed {α} (key : α → String) (K : List α) (n : String) :
    (K.map (fun m => (key m, m))).lookup n = K.find? (fun p => key p == n) := by
  induction K with
  | nil => rfl
  | cons m ms ih =>
    simp only [List.map_cons, List.lookup_cons, List.find?_cons]
    by_cases h : n = key m
    · subst h; simp
    · have h1 : (n == key m) = false := by simpa using h
      have h2 : (key m == n) = false := by simpa using fun e : key m = n => h e.symm
      simp [h1, h2, ih]

theorem firstsAux_sublist {α} (key : α → String) (seen : List String) (l : List α) :
    (firstsAux key seen l).Sublist l := by
  induction l generalizing seen with
  | nil => simp [firstsAux]
  | cons x xs ih =>
    simp only [firstsAux]
    split
    · exact (ih seen).trans (List.sublist_cons_self _ _)
    · exact List.Sublist.cons_cons _ (ih _)

theorem mem_of_mem_firsts {α} {key : α → String} {l : List α} {x : α} (h : x ∈ firsts key l) : x ∈ l :=
  (firstsAux_sublist key [] l).subset h

/-!
`check_imports` and `check_declared_parcelables` run the same loop: an element is rejected with a
diagnostic, or it repeats the key of an accepted element and gets a diagnostic pointing back to
it, or it is accepted into the table.
-/

section firstsFold
variable {α : Type} (key : α → String) (rej : α → Option Diag) (dup : α → α → Diag)

def firstsStep (acc : List (String × α) × List Diag) (x : α) : List (String × α) × List Diag :=
  match rej x with
  | some d => (acc.1, acc.2 ++ [d])
  | none =>
    match acc.1.lookup (key x) with
    | some prev => (acc.1, acc.2 ++ [dup x prev])
    | none => (acc.1 ++ [(key x, x)], acc.2)

def accepted (l : List α) : List α := l.filter (fun x => (rej x).isNone)

def pushedFor (pre : List α) (x : α) : List Diag :=
  match rej x with
  | some d => [d]
  | none =>
    match (accepted rej pre).find? (fun p => key p == key x) with
    | some prev => [dup x prev]
    | none => []

def pushed (pre : List α) : List α → List Diag
  | [] => []
  | x :: rest => pushedFor key rej dup pre x ++ pushed (pre ++ [x]) rest

theorem firstsFold (pre rest : List α) (acc : List Diag) :
    rest.foldl (firstsStep key rej dup) ((firsts key (accepted rej pre)).map (fun x => (key x, x)), acc)
      = ((firsts key (accepted rej (pre ++ rest))).map (fun x => (key x, x)),
         acc ++ pushed key rej dup pre rest) := by
  induction rest generalizing pre acc with
  | nil => simp [pushed]
  | cons x rest ih =>
    have hstep : firstsStep key rej dup ((firsts key (accepted rej pre)).map (fun x => (key x, x)), acc) x
        = ((firsts key (accepted rej (pre ++ [x]))).map (fun x => (key x, x)),
           acc ++ pushedFor key rej dup pre x) := by
      unfold firstsStep pushedFor
      cases hr : rej x with
      | some d => simp [accepted, List.filter_append, hr]
      | none =>
        have hacc : accepted rej (pre ++ [x]) = accepted rej pre ++ [x] := by
          simp [accepted, List.filter_append, hr]
        simp only [lookup_keyed, find_firsts, hacc, firsts_snoc, ← List.isSome_find?]
        cases (accepted rej pre).find? (fun p => key p == key x) <;> simp
    rw [List.foldl_cons, hstep, ih (pre ++ [x]), pushed, List.append_assoc, List.append_assoc]
    rfl

theorem firstsFold_all (l : List α) :
    l.foldl (firstsStep key rej dup) ([], [])
      = ((firsts key (accepted rej l)).map (fun x => (key x, x)), pushed key rej dup [] l) := by
  simpa [accepted, firsts, firstsAux] using firstsFold key rej dup [] l []

theorem mem_pushed (pre rest : List α) :
    ∀ d ∈ pushed key rej dup pre rest, ∃ x ∈ rest, rej x = some d ∨ ∃ p, d = dup x p := by
  induction rest generalizing pre with
  | nil =>
    intro d hd
    cases hd
  | cons x rest ih =>
    intro d hd
    rcases List.mem_append.mp hd with hd | hd
    · refine ⟨x, List.mem_cons_self .., ?_⟩
      unfold pushedFor at hd
      split at hd
      · rename_i d' hr
        exact Or.inl (List.mem_singleton.mp hd ▸ hr)
      · split at hd
        · exact Or.inr ⟨_, List.mem_singleton.mp hd⟩
        · cases hd
    · obtain ⟨y, hy, e⟩ := ih (pre ++ [x]) d hd
      exact ⟨y, List.mem_cons_of_mem _ hy, e⟩

end firstsFold

end Aidl
