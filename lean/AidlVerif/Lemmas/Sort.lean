import AidlVerif.Model.Validation

/-! Lemmas about the stable insertion sort used for `sort_by_key`. -/

namespace Aidl

theorem insertByKey_perm {α} (key : α → Nat) (x : α) (l : List α) :
    (insertByKey key x l).Perm (x :: l) := by
  induction l with
  | nil => simp [insertByKey]
  | cons y ys ih =>
    unfold insertByKey
    split
    · exact List.Perm.refl _
    · exact (List.Perm.cons y ih).trans (List.Perm.swap x y ys)

def SortedBy {α} (key : α → Nat) (l : List α) : Prop := l.Pairwise (fun a b => key a ≤ key b)

theorem insertByKey_sorted {α} (key : α → Nat) (x : α) (l : List α) (h : SortedBy key l) :
    SortedBy key (insertByKey key x l) := by
  induction l with
  | nil => simp [insertByKey, SortedBy]
  | cons y ys ih =>
    unfold insertByKey
    have hy := List.pairwise_cons.mp h
    split
    · rename_i hlt
      refine List.pairwise_cons.mpr ⟨?_, h⟩
      intro z hz
      rcases List.mem_cons.mp hz with rfl | hz
      · omega
      · have := hy.1 z hz; omega
    · rename_i hnlt
      refine List.pairwise_cons.mpr ⟨?_, ih hy.2⟩
      intro z hz
      have hz' := (insertByKey_perm key x ys).mem_iff.mp hz
      rcases List.mem_cons.mp hz' with rfl | hz'
      · omega
      · exact hy.1 z hz'

theorem insertByKey_filter {α} (key : α → Nat) (x : α) (l : List α) (k : Nat) (h : SortedBy key l) :
    (insertByKey key x l).filter (fun a => key a = k) = l.filter (fun a => key a = k) ++ (if key x = k then [x] else []) := by
  induction l with
  | nil => simp [insertByKey, List.filter]; split <;> simp_all
  | cons y ys ih =>
    unfold insertByKey
    have hy := List.pairwise_cons.mp h
    split
    · rename_i hlt
      -- every element of y :: ys has a key > key x
      by_cases hk : key x = k
      · have hnone : (y :: ys).filter (fun a => key a = k) = [] := by
          apply List.filter_eq_nil_iff.mpr
          intro z hz
          rcases List.mem_cons.mp hz with rfl | hz
          · simp; omega
          · have := hy.1 z hz; simp; omega
        simp [hk, hnone]
      · simp [List.filter_cons, hk]
    · simp only [List.filter_cons]
      split <;> simp [ih hy.2]

theorem foldl_insertByKey_spec {α} (key : α → Nat) (l acc : List α) (h : SortedBy key acc) :
    let r := l.foldl (fun acc x => insertByKey key x acc) acc
    r.Perm (acc ++ l) ∧ SortedBy key r
      ∧ ∀ k, r.filter (fun a => key a = k) = acc.filter (fun a => key a = k) ++ l.filter (fun a => key a = k) := by
  induction l generalizing acc with
  | nil => simpa using h
  | cons x xs ih =>
    obtain ⟨hp, hs, hf⟩ := ih _ (insertByKey_sorted key x acc h)
    refine ⟨hp.trans ?_, hs, fun k => ?_⟩
    · exact ((insertByKey_perm key x acc).append_right xs).trans List.perm_middle.symm
    · rw [List.foldl_cons, hf k, insertByKey_filter key x acc k h]
      by_cases hk : key x = k <;> simp [hk]

theorem stableSortBy_perm {α} (key : α → Nat) (l : List α) : (stableSortBy key l).Perm l := by
  simpa [stableSortBy] using (foldl_insertByKey_spec key l [] List.Pairwise.nil).1

theorem sortDiags_perm (ds : List Diag) : (sortDiags ds).Perm ds := stableSortBy_perm _ ds

theorem stableSortBy_sorted {α} (key : α → Nat) (l : List α) : SortedBy key (stableSortBy key l) :=
  (foldl_insertByKey_spec key l [] List.Pairwise.nil).2.1

theorem stableSortBy_filter {α} (key : α → Nat) (l : List α) (k : Nat) :
    (stableSortBy key l).filter (fun a => key a = k) = l.filter (fun a => key a = k) := by
  simpa [stableSortBy] using (foldl_insertByKey_spec key l [] List.Pairwise.nil).2.2 k

theorem mem_of_filter_eq {α} (key : α → Nat) {a b : List α}
    (h : ∀ k, a.filter (fun x => key x = k) = b.filter (fun x => key x = k)) {x : α} (hx : x ∈ a) : x ∈ b := by
  have hm : x ∈ a.filter (fun z => key z = key x) := List.mem_filter.mpr ⟨hx, by simp⟩
  rw [h] at hm
  exact (List.mem_filter.mp hm).1

theorem sorted_ext {α} (key : α → Nat) (a b : List α) (ha : SortedBy key a) (hb : SortedBy key b)
    (h : ∀ k, a.filter (fun x => key x = k) = b.filter (fun x => key x = k)) : a = b := by
  induction a generalizing b with
  | nil =>
    cases b with
    | nil => rfl
    | cons y ys => cases mem_of_filter_eq key (fun k => (h k).symm) (List.mem_cons_self (a := y))
  | cons x xs ih =>
    cases b with
    | nil => cases mem_of_filter_eq key h (List.mem_cons_self (a := x))
    | cons y ys =>
      have hx := List.pairwise_cons.mp ha
      have hy := List.pairwise_cons.mp hb
      -- each head occurs in the other list, at or after its head: the heads have the same key
      have hle1 : key x ≤ key y := by
        rcases List.mem_cons.mp (mem_of_filter_eq key (fun k => (h k).symm) (List.mem_cons_self (a := y))) with e | hm
        · exact Nat.le_of_eq (e ▸ rfl)
        · exact hx.1 y hm
      have hle2 : key y ≤ key x := by
        rcases List.mem_cons.mp (mem_of_filter_eq key h (List.mem_cons_self (a := x))) with e | hm
        · exact Nat.le_of_eq (e ▸ rfl)
        · exact hy.1 x hm
      have hkey : key x = key y := Nat.le_antisymm hle1 hle2
      -- so they head the same key class, and are equal
      have hh := h (key x)
      simp only [List.filter_cons, hkey, decide_true, if_true] at hh
      obtain ⟨rfl, -⟩ := List.cons.inj hh
      congr 1
      refine ih ys hx.2 hy.2 fun k => ?_
      have := h k
      simp only [List.filter_cons] at this
      split at this
      · exact List.tail_eq_of_cons_eq this
      · exact this

theorem stableSortBy_congr {α} (key : α → Nat) (l₁ l₂ : List α)
    (h : ∀ k, l₁.filter (fun x => key x = k) = l₂.filter (fun x => key x = k)) :
    stableSortBy key l₁ = stableSortBy key l₂ := by
  apply sorted_ext key _ _ (stableSortBy_sorted key l₁) (stableSortBy_sorted key l₂)
  intro k
  rw [stableSortBy_filter, stableSortBy_filter, h k]

theorem stableSortBy_of_sorted {α} (key : α → Nat) (l : List α) (h : SortedBy key l) :
    stableSortBy key l = l := by
  apply sorted_ext key _ _ (stableSortBy_sorted key l) h
  intro k
  exact stableSortBy_filter key l k

theorem stableSortBy_filter_comm {α} (key : α → Nat) (l : List α) (p : α → Bool) :
    (stableSortBy key l).filter p = stableSortBy key (l.filter p) := by
  apply sorted_ext key
  · exact List.Pairwise.sublist List.filter_sublist (stableSortBy_sorted key l)
  · exact stableSortBy_sorted key _
  · intro k
    rw [stableSortBy_filter, List.filter_filter, List.filter_filter]
    have : (fun a => decide (key a = k) && p a) = (fun a => p a && decide (key a = k)) := by
      funext a; exact Bool.and_comm _ _
    rw [this, ← List.filter_filter, stableSortBy_filter, List.filter_filter]

end Aidl
