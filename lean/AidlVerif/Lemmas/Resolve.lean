import AidlVerif.Spec.C05

/-!
`resolve_type(s)` computes the scoping rule of Spec/C05 at every type node (`classify_eq`,
`resolveTypes_eq`). The namespace is that of C05 because these two are results of that property.
-/

namespace Aidl.Props.C05
open Aidl Aidl.Spec Aidl.Spec.C05

theorem find_decl (declared : List String) (name : String) :
    declared.find? (fun ip => name == ip && !(ip.toList.contains '.'))
      = if declared.contains name && !(name.toList.contains '.') then some name else none := by
  induction declared with
  | nil => simp
  | cons d ds ih =>
    simp only [List.find?_cons, List.contains_cons]
    by_cases h : name = d
    · subst h
      by_cases hd : name.toList.contains '.' <;> simp_all
    · have h1 : (name == d) = false := by simpa using h
      rw [h1, ih]
      simp

/-- the model's `resolve_type` computes the scoping rule of the specification, and pushes its
    'unknown type' Error exactly when the rule leaves the name unresolved -/
theorem classify_eq (imports declared : List String) (defined : Defined) (name : String) :
    resolveKind imports declared defined name .unresolved
      = (classify imports declared defined name,
         isUnresolved (classify imports declared defined name)) := by
  unfold resolveKind classify matchingImports
  simp only [ne_eq, not_true_eq_false, if_false, find_decl]
  -- the specification's tables and filter are the model's, under names of their own
  have hq : ∀ n, AKind.fromQualifiedName n = builtinQualified n := fun _ => rfl
  have hs : AKind.fromName name = builtinSimple name := rfl
  have himp : (fun ip => name == ip || strEndsWith ip ("." ++ name)) = importMatches name := rfl
  simp only [hq, hs, himp]
  -- Both sides take the same four steps. The outcome of step 1, an `Option.filter` in the
  -- specification, is the same on both sides:
  split
  next a h1 =>
    have hf : (builtinQualified name).filter (fun a => a.canBeQualified || imports.contains name) = some a := by
      rw [← h1]
      cases builtinQualified name <;> rfl
    rw [hf]
    rfl
  next h1 =>
    have hf : (builtinQualified name).filter (fun a => a.canBeQualified || imports.contains name) = none := by
      rw [← h1]
      cases builtinQualified name <;> rfl
    rw [hf]
    cases minStr? (imports.filter (importMatches name)) with
    | some ip =>
      dsimp only
      cases builtinQualified ip <;> cases defined.get ip <;> rfl
    | none =>
      by_cases hdc : (declared.contains name && !name.toList.contains '.') = true
      · simp only [hdc, if_true]
        rfl
      · simp only [hdc]
        -- step 4 is spelt differently: the code tests a qualified built-in name again, for
        -- `canBeQualified` alone, which is false since step 1 has failed; the specification skips it
        cases hbq : builtinQualified name with
        | none => cases builtinSimple name <;> rfl
        | some a =>
          have hcq := (show a.canBeQualified = false ∧ name ∉ imports by simpa [hbq] using hf).1
          simp [hcq, isUnresolved]

theorem classify_range (imports declared : List String) (defined : Defined) (name : String) :
    (∃ a, classify imports declared defined name = .android a)
    ∨ (∃ k r, classify imports declared defined name = .resolved k r)
    ∨ classify imports declared defined name = .unresolved := by
  unfold classify
  split
  · exact Or.inl ⟨_, rfl⟩
  · split
    · split
      · exact Or.inl ⟨_, rfl⟩
      · exact Or.inr (Or.inl ⟨_, _, rfl⟩)
    · split
      · exact Or.inr (Or.inl ⟨_, _, rfl⟩)
      · split
        · exact Or.inl ⟨_, rfl⟩
        · exact Or.inr (Or.inr rfl)

theorem newKind_eq_iff (imports declared : List String) (defined : Defined) (t : Ty) {k : TypeKind}
    (hk : k ≠ .unresolved ∧ (∀ a, k ≠ .android a) ∧ ∀ key r, k ≠ .resolved key r) :
    newKind imports declared defined t = k ↔ t.kind = k := by
  unfold newKind
  by_cases hu : t.kind = .unresolved
  · -- an unresolved node: neither side holds
    rw [if_pos hu, hu]
    have hne : classify imports declared defined t.name ≠ k := by
      rcases classify_range imports declared defined t.name with ⟨a, h⟩ | ⟨key, r, h⟩ | h <;> rw [h]
      · exact (hk.2.1 a).symm
      · exact (hk.2.2 key r).symm
      · exact hk.1.symm
    exact ⟨fun e => absurd e hne, fun e => absurd e.symm hk.1⟩
  · rw [if_neg hu]

/-- node-wise kind computed by `resolve_type` -/
def hKind (imports declared : List String) (defined : Defined) (t : Ty) : TypeKind :=
  (resolveKind imports declared defined t.name t.kind).1

theorem resolveKind_eq (imports declared : List String) (defined : Defined) (t : Ty) :
    resolveKind imports declared defined t.name t.kind
      = (newKind imports declared defined t, isUnresolved (newKind imports declared defined t)) := by
  unfold newKind
  by_cases hk : t.kind = .unresolved
  · rw [hk, classify_eq]; simp
  · have : resolveKind imports declared defined t.name t.kind = (t.kind, false) := by
      unfold resolveKind; simp [hk]
    rw [this]
    simp only [hk, if_false]
    cases hh : t.kind <;> simp_all [isUnresolved]

/-- the state update performed by `resolve_types`' closure -/
def resolveUpd (imports declared : List String) (defined : Defined) (s : ResolveState) (t : Ty) : ResolveState :=
  (resolveStep imports declared defined s t).1

theorem foldl_resolveUpd (imports declared : List String) (defined : Defined) (l : List Ty) (s : ResolveState) :
    let r := l.foldl (resolveUpd imports declared defined) s
    r.resolved = s.resolved ++ l.filterMap (fun t => resolvedKeyOfKind (newKind imports declared defined t))
    ∧ r.diags = s.diags ++ (l.filter (fun t => isUnresolved (newKind imports declared defined t))).map unknownTypeDiag := by
  induction l generalizing s with
  | nil => simp
  | cons t ts ih =>
    simp only [List.foldl_cons]
    have := ih (resolveUpd imports declared defined s t)
    simp only at this
    rw [this.1, this.2]
    unfold resolveUpd resolveStep
    simp only [resolveKind_eq]
    constructor
    · cases hr : resolvedKeyOfKind (newKind imports declared defined t) <;> simp [hr]
    · cases hu : isUnresolved (newKind imports declared defined t) <;> simp [hu]

/-- **Every type node at any depth** is rewritten by the scoping rule, and the 'unknown type'
    Errors are exactly one per node left unresolved, in source order. -/
theorem resolveTypes_eq (ast : AidlFile) (imports declared : List String) (defined : Defined) :
    resolveTypes ast imports declared defined =
      (mapTypes (newKind imports declared defined) ast,
       (allTypesPre ast).filterMap (fun t => resolvedKeyOfKind (newKind imports declared defined t)),
       ((allTypesPre ast).filter (fun t => isUnresolved (newKind imports declared defined t))).map unknownTypeDiag) := by
  unfold resolveTypes
  have hf : ∀ s t, resolveStep imports declared defined s t
      = (resolveUpd imports declared defined s t, newKind imports declared defined t) := by
    intro s t
    unfold resolveUpd
    have : (resolveStep imports declared defined s t).2 = newKind imports declared defined t := by
      unfold resolveStep; simp [resolveKind_eq]
    rw [← this]
  rw [walkTypesMut_eq _ _ _ hf]
  have h := foldl_resolveUpd imports declared defined (allTypesPre ast) {}
  simp only at h
  simp [h.1, h.2]

end Aidl.Props.C05
