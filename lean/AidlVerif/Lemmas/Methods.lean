import AidlVerif.Lemmas.Types

/-!
The methods of a file: `walk_methods` is a fold over them, resolution rewrites them one by one, and
`check_methods` pushes for them the diagnostics of `check_method` interleaved with those of the id
bookkeeping (`idDiagsLoop`), panicking exactly where the bookkeeping does.
-/

namespace Aidl
open Aidl.Spec

theorem walkMethods_eq_foldl {σ} (ast : AidlFile) (f : σ → Method → σ) (s : σ) :
    walkMethods ast f s = (methodsOf ast).foldl f s := by
  unfold walkMethods methodsOf
  cases ast.item with
  | interface i =>
    simp only [Interface.methods, List.foldl_filterMap]
    congr 1
    funext s el
    cases el <;> rfl
  | parcelable p => rfl
  | enum e => rfl

theorem methodsOf_mapTypes (h : Ty → TypeKind) (ast : AidlFile) :
    methodsOf (mapTypes h ast) = (methodsOf ast).map (Method.mapTypes h) := by
  unfold methodsOf mapTypes
  cases hitem : ast.item with
  | interface i =>
    simp only [Interface.methods, List.filterMap_map, List.map_filterMap]
    congr 1
    funext el
    cases el <;> rfl
  | parcelable p => simp
  | enum e => simp [hitem]

theorem interfaceOneway_mapTypes (h : Ty → TypeKind) (ast : AidlFile) :
    interfaceOneway (mapTypes h ast) = interfaceOneway ast := by
  unfold interfaceOneway mapTypes
  cases hitem : ast.item <;> simp [hitem]

def idDiagsLoop : IdState → List Method → Except String (List Diag)
  | _, [] => .ok []
  | s, m :: ms =>
    match checkMethodIdsStep s m with
    | .error e => .error e
    | .ok (s', new) =>
      match idDiagsLoop s' ms with
      | .error e => .error e
      | .ok rest => .ok (new ++ rest)

theorem foldl_error {α β ε} {step : Except ε β → α → Except ε β} (herr : ∀ e x, step (.error e) x = .error e)
    (l : List α) (e : ε) : l.foldl step (.error e) = .error e :=
  List.foldlRecOn l step (motive := (· = .error e)) rfl fun _ hb x _ => hb ▸ herr e x

theorem foldl_checkMethodsStep (ms : List Method) (st : IdState) (acc : List Diag) :
    match idDiagsLoop st ms with
    | .ok ids => ∃ st' ds, ms.foldl checkMethodsStep (.ok (st, acc)) = .ok (st', ds)
        ∧ ds.Perm (acc ++ ms.flatMap checkMethod ++ ids)
    | .error e => ms.foldl checkMethodsStep (.ok (st, acc)) = .error e := by
  induction ms generalizing st acc with
  | nil => exact ⟨st, acc, rfl, by simp⟩
  | cons m ms ih =>
    have hs : checkMethodsStep (.ok (st, acc)) m =
        (match checkMethodIdsStep st m with
         | .error e => .error e
         | .ok (st', new) => .ok (st', acc ++ checkMethod m ++ new)) := rfl
    rw [List.foldl_cons, hs, idDiagsLoop]
    cases checkMethodIdsStep st m with
    | error e => exact foldl_error (fun _ _ => rfl) ms e
    | ok r =>
      obtain ⟨s1, new⟩ := r
      have := ih s1 (acc ++ checkMethod m ++ new)
      simp only
      cases hids : idDiagsLoop s1 ms with
      | error e => rwa [hids] at this
      | ok ids =>
        rw [hids] at this
        obtain ⟨st', ds, h, hperm⟩ := this
        refine ⟨st', ds, h, hperm.trans (List.perm_iff_count.mpr fun d => ?_)⟩
        simp only [List.flatMap_cons, List.count_append]
        omega

theorem checkMethods_eq (ast : AidlFile) :
    match idDiagsLoop {} (methodsOf ast) with
    | .ok ids => ∃ ds, checkMethods ast = .ok ds ∧ ds.Perm ((methodsOf ast).flatMap checkMethod ++ ids)
    | .error e => checkMethods ast = .error e := by
  have := foldl_checkMethodsStep (methodsOf ast) {} []
  unfold checkMethods
  rw [walkMethods_eq_foldl]
  cases hids : idDiagsLoop {} (methodsOf ast) with
  | error e =>
    rw [hids] at this
    simp only [this]
  | ok ids =>
    rw [hids] at this
    obtain ⟨st', ds, h, hperm⟩ := this
    exact ⟨ds, by rw [h], by simpa using hperm⟩

theorem checkMethods_perm (ast : AidlFile) (ds : List Diag) (h : checkMethods ast = .ok ds) :
    ∃ ids, idDiagsLoop {} (methodsOf ast) = .ok ids ∧
      ds.Perm ((methodsOf ast).flatMap checkMethod ++ ids) := by
  have := checkMethods_eq ast
  cases hids : idDiagsLoop {} (methodsOf ast) with
  | error e =>
    rw [hids] at this
    rw [h] at this
    cases this
  | ok ids =>
    rw [hids] at this
    obtain ⟨ds', h', hperm⟩ := this
    cases h.symm.trans h'
    exact ⟨ids, rfl, hperm⟩

def argDiags (ast : AidlFile) : List Diag := (methodsOf ast).flatMap checkMethodArgs

end Aidl
