import AidlVerif.Model.Validation

/-! `collect_item_keys`: the kind registered under a key does not depend on the order of the files. -/

namespace Aidl

/-- ranks are injective, so on a tie the two are equal -/
def rmin (a b : RKind) : RKind := if a.rank < b.rank then a else b

theorem rmin_comm_assoc : ∀ a b v : RKind, rmin a (rmin b v) = rmin b (rmin a v) := by
  intro a b v; cases a <;> cases b <;> cases v <;> rfl

theorem rmin_comm : ∀ a b : RKind, rmin a b = rmin b a := by
  intro a b; cases a <;> cases b <;> rfl

theorem get_insertMin_eq (d : Defined) (key : String) (kind : RKind) (k : String) :
    (d.insertMin key kind).get k =
      if k = key then some (match d.get key with | some v => rmin kind v | none => kind) else d.get k := by
  induction d with
  | nil =>
    simp only [Defined.insertMin, Defined.get, List.lookup_cons, List.lookup_nil]
    by_cases e : k = key
    · simp [e]
    · have : (k == key) = false := by simpa using e
      simp [e, this]
  | cons p rest ih =>
    obtain ⟨k', v'⟩ := p
    simp only [Defined.insertMin]
    by_cases e : k' = key
    · subst e
      simp only [if_true, Defined.get, List.lookup_cons, beq_self_eq_true]
      by_cases e2 : k = k'
      · simp [e2, rmin]
      · have : (k == k') = false := by simpa using e2
        simp [e2, this]
    · simp only [e, if_false, Defined.get, List.lookup_cons] at ih ⊢
      have hkk : (key == k') = false := by simpa using fun h : key = k' => e h.symm
      by_cases e2 : k = k'
      · subst e2
        simp only [beq_self_eq_true, e, if_false]
      · have h2 : (k == k') = false := by simpa using e2
        simp only [h2, hkk]
        exact ih

def Defined.Equiv (d₁ d₂ : Defined) : Prop := ∀ k, d₁.get k = d₂.get k

def keyStep (d : Defined) (fr : FileResult) : Defined :=
  match fr.ast with
  | some a => Defined.insertMin d a.key a.item.kind
  | none => d

theorem collectItemKeys_eq (files : List FileResult) : collectItemKeys files = files.foldl keyStep [] := rfl

theorem keyStep_congr (d₁ d₂ : Defined) (h : d₁.Equiv d₂) (fr : FileResult) :
    (keyStep d₁ fr).Equiv (keyStep d₂ fr) := by
  unfold keyStep
  cases fr.ast with
  | none => exact h
  | some a =>
    intro k
    simp only [get_insertMin_eq, h k, h a.key]

theorem keyStep_comm (d : Defined) (x y : FileResult) :
    (keyStep (keyStep d x) y).Equiv (keyStep (keyStep d y) x) := by
  unfold keyStep
  cases hx : x.ast with
  | none => cases y.ast <;> exact fun _ => rfl
  | some a =>
    cases hy : y.ast with
    | none => exact fun _ => rfl
    | some b =>
      intro k
      simp only [get_insertMin_eq]
      by_cases e1 : k = b.key <;> by_cases e2 : k = a.key
      · have e3 : b.key = a.key := e1.symm.trans e2
        simp only [e1, e3, if_true]
        cases d.get a.key with
        | none => simp [rmin_comm]
        | some v => simp [rmin_comm_assoc]
      · have e3 : ¬ b.key = a.key := fun h => e2 (e1.trans h)
        simp [e1, e3]
      · have e3 : ¬ a.key = b.key := fun h => e1 (e2.trans h)
        simp [e2, e3]
      · simp [e1, e2]

theorem foldl_keyStep_perm {l₁ l₂ : List FileResult} (hp : l₁.Perm l₂) (d₁ d₂ : Defined) (h : d₁.Equiv d₂) :
    (l₁.foldl keyStep d₁).Equiv (l₂.foldl keyStep d₂) := by
  induction hp generalizing d₁ d₂ with
  | nil => exact h
  | cons x _ ih => exact ih _ _ (keyStep_congr d₁ d₂ h x)
  | swap x y l =>
    simp only [List.foldl_cons]
    refine List.foldl_rel (r := Defined.Equiv) (fun k => ?_) fun x _ c c' hc => keyStep_congr c c' hc x
    rw [keyStep_comm d₁ y x k]
    exact keyStep_congr _ _ (keyStep_congr d₁ d₂ h x) y k
  | trans _ _ ih1 ih2 =>
    intro k
    rw [ih1 d₁ d₂ h k]
    exact ih2 d₂ d₂ (fun _ => rfl) k

theorem collectItemKeys_perm {l₁ l₂ : List FileResult} (hp : l₁.Perm l₂) :
    (collectItemKeys l₁).Equiv (collectItemKeys l₂) := by
  rw [collectItemKeys_eq, collectItemKeys_eq]
  exact foldl_keyStep_perm hp [] [] (fun _ => rfl)

end Aidl
