/-!
What a Boolean check over a range, over the entries of an array with their indices, or a successful
`lookup` says of one element: the facts every extractor of `∀`-statements from an executable
checker starts from.
-/

namespace Aidl.Checks

theorem all_range {n : Nat} {p : Nat → Bool} (h : (List.range n).all p = true) {i : Nat} (hi : i < n) : p i = true :=
  List.all_eq_true.mp h i (List.mem_range.mpr hi)

theorem all_zipIdx {α : Type} {a : Array α} {p : α × Nat → Bool} (h : a.toList.zipIdx.all p = true) {i : Nat} {x : α}
    (hx : a[i]? = some x) : p (x, i) = true :=
  List.all_eq_true.mp h (x, i) (List.mk_mem_zipIdx_iff_getElem?.mpr (by rw [Array.getElem?_toList]; exact hx))

theorem lookup_mem {α β : Type} [BEq α] [LawfulBEq α] {l : List (α × β)} {k : α} {v : β} (h : l.lookup k = some v) :
    (k, v) ∈ l := by
  obtain ⟨l₁, l₂, rfl, _⟩ := List.lookup_eq_some_iff.mp h
  exact List.mem_append_right _ (List.mem_cons_self ..)

theorem lt_size_of_mem_getD {α : Type} {a : Array (List α)} {i : Nat} {x : α} (h : x ∈ (a[i]?).getD []) : i < a.size := by
  cases hs : a[i]? with
  | none => simp [hs] at h
  | some l => exact (Array.getElem?_eq_some_iff.mp hs).1

/-- In the kernel an access `a[i]?` into an array literal costs a walk to `i` that carries the bound
    proof along, about twice a plain list walk; so the table checks first turn `a[i]?` into
    `a.toList[i]?` (`Array.getElem?_toList`) and loops over all indices into one walk, and evaluate then. -/
theorem all_range_rows {α : Type} (a : Array (List α)) (f : Nat → α → Bool) :
    ((List.range a.size).all fun i => ((a[i]?).getD []).all (f i)) = a.toList.zipIdx.all fun x => x.1.all (f x.2) := by
  rw [Bool.eq_iff_iff, List.all_eq_true, List.all_eq_true]
  constructor
  · rintro h ⟨row, i⟩ hx
    have hi := List.mk_mem_zipIdx_iff_getElem?.mp hx
    rw [Array.getElem?_toList] at hi
    have := h i (List.mem_range.mpr (Array.getElem?_eq_some_iff.mp hi).1)
    rwa [hi] at this
  · intro h i hi
    refine h ((a[i]?).getD [], i) (List.mk_mem_zipIdx_iff_getElem?.mpr ?_)
    rw [Array.getElem?_toList, Array.getElem?_eq_getElem (List.mem_range.mp hi)]
    rfl

end Aidl.Checks
