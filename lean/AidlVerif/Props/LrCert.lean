import AidlVerif.Model.Lr

/-!
The stack-shape certificate. The translator computes, for the regenerated tables, the set of transitions that can occur
between adjacent entries of the parse stack (`succ`), their inverse (`preds`) and the accessing symbol of each state
(`acc`). Nothing of it is trusted: `Cert.ok` is an executable check of everything the safety proof (`LrSafe`) needs,
evaluated by the kernel on the tables of the run (`LrSafeCert`):

* every shift of the ACTION table (including the `error` column) is an edge;
* every edge `q --X--> t` has `acc t = X`, `t ≠ 0`, and `q ∈ preds t`;
* for every state `t` and every reduction `A → X₁…X_k` that ACTION or EOF_ACTION allows in `t`:
  walking `k` edges back from `t` only meets states whose accessing symbols are `X_k, …, X₁`, and
  every state `q` reached at the bottom has the edge `q --A--> goto(q, A)`.
-/

namespace Aidl.Lr

structure Cert where
  succ : Array (List (Nat × Nat))
  preds : Array (List Nat)
  acc : Array Nat
  reds : Array (List Nat)      -- state ↦ the productions ACTION / EOF_ACTION can reduce by in that state

namespace Cert
variable (T : Tables) (C : Cert)

def succOf (q : Nat) : List (Nat × Nat) := (C.succ[q]?).getD []
def predsOf (t : Nat) : List Nat := (C.preds[t]?).getD []
def accOf (t : Nat) : Nat := (C.acc[t]?).getD 0
def redsOf (t : Nat) : List Nat := (C.reds[t]?).getD []

def hasEdge (q x t : Nat) : Bool := (C.succOf q).contains (x, t)

def dedup : List Nat → List Nat
  | [] => []
  | x :: xs => let r := dedup xs; if r.contains x then r else x :: r

theorem mem_dedup (x : Nat) : ∀ l : List Nat, x ∈ dedup l ↔ x ∈ l
  | [] => by simp [dedup]
  | y :: ys => by
    have ih := mem_dedup x ys
    simp only [dedup]
    split
    · rename_i h
      have hy : y ∈ dedup ys := by simpa using h
      constructor
      · intro hx; exact List.mem_cons_of_mem _ (ih.mp hx)
      · intro hx
        rcases List.mem_cons.mp hx with rfl | hx
        · exact hy
        · exact ih.mpr hx
    · simp [ih]

def backWalk : List Nat → List Nat → Option (List Nat)
  | qs, [] => some qs
  | qs, x :: rest =>
    if qs.all (fun t => t != 0 && C.accOf t == x) then backWalk (dedup (qs.flatMap C.predsOf)) rest
    else none

/-- `backWalk` with the tables as lists (for the kernel, see `Checks.all_range_rows`) -/
def backWalkL (acc : List Nat) (preds : List (List Nat)) : List Nat → List Nat → Option (List Nat)
  | qs, [] => some qs
  | qs, x :: rest =>
    if qs.all (fun t => t != 0 && (acc[t]?).getD 0 == x) then
      backWalkL acc preds (dedup (qs.flatMap fun t => (preds[t]?).getD [])) rest
    else none

theorem backWalk_eq (qs rev : List Nat) : C.backWalk qs rev = backWalkL C.acc.toList C.preds.toList qs rev := by
  induction rev generalizing qs with
  | nil => rfl
  | cons x rest ih =>
    unfold backWalk backWalkL
    simp only [accOf, Array.getElem?_toList, ih]
    rfl

def redOK (t p : Nat) : Bool :=
  match T.prods[p]? with
  | none => false
  | some prod =>
    prod.rhs.length == prod.rhsIds.length && prod.pops == prod.rhsIds.length &&
    match C.backWalk [t] prod.rhsIds.reverse with
    | none => false
    | some qs =>
      if prod.accept then qs.all (· == 0)      -- the accepting reduction empties the stack
      else qs.all fun q => C.hasEdge q (T.ncols + prod.nt) (gotoOf T q prod.nt)

def actOK (t : Nat) (a : Int) : Bool :=
  match asReduce a with
  | some p => (C.redsOf t).contains p
  | none => true

def redsOK : Bool := (List.range C.reds.size).all fun t => (C.redsOf t).all fun p => C.redOK T t p

def shiftOK (q col : Nat) (a : Int) : Bool :=
  match asShift a with
  | some t => C.hasEdge q col t
  | none => true

def rowsOK : Bool :=
  T.action.toList.zipIdx.all fun rq =>
    rq.1.toList.zipIdx.all fun ac => C.shiftOK rq.2 ac.2 ac.1 && C.actOK rq.2 ac.1

def eofOK : Bool := T.eof.toList.zipIdx.all fun aq => C.actOK aq.2 aq.1

def edgesOK : Bool :=
  (List.range C.succ.size).all fun q => (C.succOf q).all fun e =>
    e.2 != 0 && C.accOf e.2 == e.1 && (C.predsOf e.2).contains q

def ok : Bool := 0 < T.ncols && C.rowsOK T && C.eofOK T && C.edgesOK && C.redsOK T

end Cert
end Aidl.Lr
