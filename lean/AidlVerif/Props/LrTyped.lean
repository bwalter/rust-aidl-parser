import AidlVerif.Props.LrSafe
import AidlVerif.Props.TypeCheck
import AidlVerif.Props.LexerLang

/-!
`Inv2`: the stack is a certified chain and every symbol's value has the type of its symbol, relative
to "an Error has been reported" for the current diagnostics.
-/

namespace Aidl.Props.LrTyped
open Aidl Aidl.Lr Aidl.Actions Aidl.Lexer Aidl.Typing
open Aidl.Props.LrSafe Aidl.Props.Typed Aidl.Props.LrDriver

variable (T : Tables) (C : Cert) (TT : TyTables) (env : Env)

def symTy (id : Nat) : VTy := (TT.symTys[id]?).getD .tok

def prodParams (p : Production) : List ATy :=
  if p.rhsIds.length = 0 then [.locRef, .locRef] else p.rhsIds.map fun id => .triple (symTy TT id)

def prodOk (p : Production) : Bool :=
  match TT.sigs[p.action]? with
  | some sg => sg.params == prodParams TT p
      && (if p.accept then sg.ret == .optNS .aidl else sg.ret == symTy TT (T.ncols + p.nt))
      && decide (TT.rankOf p.action < 16)                              -- the nesting bound of `Lr.reduceCore`
      && (!p.rhsIds.contains (T.ncols - 1) || TT.reportsOf p.action)    -- a production over `error` reports an Error
  | none => false

/-- the texts of a DIRECTION token -/
def dirWords : List (List Char) := [['i', 'n'], ['o', 'u', 't'], ['i', 'n', 'o', 'u', 't']]

/-- a lexer entry whose column has the refined type `dtok` only matches `in`, `out`, `inout` -/
def dirEntryOk (i : Nat) : Bool :=
  match LexerLang.lang T.lex[i]!.1 with
  | some L => L.all fun w => dirWords.contains w
  | none => false

def tablesOk : Bool :=
  T.prods.toList.all (prodOk T TT)
    && T.tokToCol.all (fun e => symTy TT e.2 == .tok || (symTy TT e.2 == .dtok && dirEntryOk T e.1))
    && symTy TT (T.ncols - 1) == .recovery

structure TyFacts : Prop where
  actions : TT.actionsOk = true
  prods : ∀ (p : Nat) (prod : Production), T.prods[p]? = some prod → prodOk T TT prod = true
  cols : ∀ (i col : Nat), T.tokToCol.lookup i = some col →
    symTy TT col = .tok ∨ (symTy TT col = .dtok ∧ dirEntryOk T i = true)
  err : symTy TT (T.ncols - 1) = .recovery
  defs : TT.defs = T.actions

theorem tyFacts (ha : TT.actionsOk = true) (ht : tablesOk T TT = true) (hd : TT.defs = T.actions) : TyFacts T TT := by
  unfold tablesOk at ht
  simp only [Bool.and_eq_true, beq_iff_eq] at ht
  obtain ⟨⟨h1, h2⟩, h3⟩ := ht
  refine ⟨ha, ?_, ?_, h3, hd⟩
  · intro p prod hp
    exact List.all_eq_true.mp h1 prod (Array.mem_toList_iff.mpr (Array.mem_of_getElem? hp))
  · intro i col hl
    have := (List.all_eq_true.mp h2) (i, col) (Checks.lookup_mem hl)
    simpa using this

def TokTy (col : Nat) (la : Token) : Prop := HasTy False (symTy TT col) (.tok la.text)

theorem dirWord_text {w : List Char} (h : dirWords.contains w = true) :
    String.ofList w = "in" ∨ String.ofList w = "out" ∨ String.ofList w = "inout" := by
  have : w ∈ dirWords := by simpa using h
  simp only [dirWords, List.mem_cons, List.mem_nil_iff, or_false] at this
  rcases this with rfl | rfl | rfl
  · exact Or.inl rfl
  · exact Or.inr (Or.inl rfl)
  · exact Or.inr (Or.inr rfl)

def RecOk (s : St) : Prop := s.recovered = true → (∃ x ∈ s.syms, x.id = T.ncols - 1) ∨ hasError s.diags

structure Inv2 (s : St) : Prop where
  chain : Chain C s.states s.syms
  typed : ∀ x ∈ s.syms, HasTy (hasError s.diags) (symTy TT x.id) x.val
  recok : RecOk T s

def EndOk (s : St) : Outcome → Prop
  | .accept v => HasTy (hasError s.diags) (.optNS .aidl) v ∧ (s.recovered = true → hasError s.diags)
  | .actionPanic p => OkKind p
  | .panic _ => False
  | _ => True

theorem nextToken_inv2 (F : TyFacts T TT) (s : St) (h : Inv2 T C TT s) :
    Holds (fun s' la => Inv2 T C TT s' ∧ ∀ x ∈ la, TokTy TT x.2 x.1) EndOk (ofNext (nextToken T s)) := by
  unfold nextToken
  cases hn : Lexer.next T.lex (s.input.length + 1) s.input s.pos with
  | eof => exact And.intro h nofun
  | invalid l => trivial
  | token t rest =>
    dsimp only
    cases hc : T.tokToCol.lookup t.index with
    | none => trivial
    | some col =>
      refine And.intro ⟨h.chain, h.typed, h.recok⟩ fun x hx => ?_
      cases hx
      -- the token has the type of its column; for a `dtok` column, by the language of its lexer entry
      unfold TokTy
      rcases F.cols _ _ hc with h1 | ⟨h1, h2⟩
      · rw [h1]; trivial
      · rw [h1]
        unfold dirEntryOk at h2
        cases hL : LexerLang.lang T.lex[t.index]!.1 with
        | none => rw [hL] at h2; cases h2
        | some L =>
          rw [hL] at h2
          obtain ⟨w, hw, htext⟩ := LexerLang.next_token_lang T.lex _ _ _ t rest hn L hL
          rw [htext]
          exact dirWord_text ((List.all_eq_true.mp h2) w hw)

theorem argsTyped_map {E : Prop} : ∀ (syms : List Sym), (∀ x ∈ syms, HasTy E (symTy TT x.id) x.val) →
    ArgsTyped E ((syms.map (·.id)).map fun id => .triple (symTy TT id)) (syms.map fun x => .triple x.start x.val x.stop)
  | [], _ => trivial
  | x :: xs, hx => ⟨hx x (List.mem_cons_self ..), argsTyped_map xs fun y hy => hx y (List.mem_cons_of_mem _ hy)⟩

theorem reduce_inv2 (F : CertFacts T C) (G : TyFacts T TT) (s : St) (p : Nat) (la : Option Nat)
    (h : Inv2 T C TT s) (hred : C.redOK T (topState s) p = true) :
    Holds (fun s' _ => Inv2 T C TT s') EndOk (ofRed (reduce T env s p la)) := by
  obtain ⟨prod, hp, hids, hr⟩ := reduce_chain T C F env s p la h.chain hred
  have hpok := G.prods p prod hp
  unfold prodOk at hpok
  cases hsg : TT.sigs[prod.action]? with
  | none => simp [hsg] at hpok
  | some sg =>
    simp only [hsg, Bool.and_eq_true, beq_iff_eq, decide_eq_true_eq] at hpok
    obtain ⟨⟨⟨hparams, hret⟩, hrank⟩, hrep⟩ := hpok
    have hargs : ∀ start stop, ArgsTyped (hasError s.diags) sg.params (reduceArgs (popped s prod) start stop) := by
      intro start stop
      rw [hparams]
      unfold prodParams reduceArgs
      rw [← hids, List.length_map]
      split
      · exact ⟨trivial, trivial, trivial⟩
      · exact argsTyped_map TT _ fun x hx => h.typed x (List.mem_of_mem_take (List.mem_reverse.mp hx))
    have hpoperr : (∃ x ∈ s.syms.take prod.rhs.length, x.id = T.ncols - 1) → TT.reportsOf prod.action = true := by
      rintro ⟨x, hx, hid⟩
      have hmem : T.ncols - 1 ∈ prod.rhsIds := by
        rw [← hids, ← hid]
        exact List.mem_map.mpr ⟨x, List.mem_reverse.mpr hx, rfl⟩
      simpa [hmem] using hrep
    have hact := evalAction_typed (env := env) TT G.actions 16 prod.action sg hsg hrank s.diags _
      (hargs (reduceStart (popped s prod) (s.syms.drop prod.rhs.length) la)
        (reduceStop (popped s prod) (reduceStart (popped s prod) (s.syms.drop prod.rhs.length) la)))
    rw [G.defs] at hact
    unfold Tri at hact
    rw [← runAction] at hact
    have hsplit : s.syms = s.syms.take prod.rhs.length ++ s.syms.drop prod.rhs.length := (List.take_append_drop _ _).symm
    generalize reduce T env s p la = res at hr ⊢
    cases hr with
    | stop he =>
      rw [he] at hact
      exact hact
    | accept he hacc hempty =>
      rw [he] at hact
      obtain ⟨hext, hv, hrv⟩ := hact
      rw [if_pos hacc] at hret
      refine And.intro ((show sg.ret = .optNS .aidl by simpa using hret) ▸ hv) fun hrec => ?_
      rcases h.recok hrec with ⟨x, hx, hid⟩ | he
      · rw [hsplit, hempty, List.append_nil] at hx
        exact hrv (hpoperr ⟨x, hx, hid⟩)
      · exact hasError_mono hext he
    | goOn g he hacc _ hc' =>
      rw [he] at hact
      obtain ⟨hext, hv, hrv⟩ := hact
      have hmono := hasError_mono hext
      rw [if_neg (by simp [hacc])] at hret
      refine Inv2.mk hc' ?_ ?_
      · exact List.forall_mem_cons.mpr ⟨(show sg.ret = symTy TT (T.ncols + prod.nt) by simpa using hret) ▸ hv,
          fun x hx => HasTy.mono hmono _ _ (h.typed x (List.mem_of_mem_drop hx))⟩
      · intro hrec
        rcases h.recok hrec with ⟨x, hx, hid⟩ | he
        · rw [hsplit] at hx
          rcases List.mem_append.mp hx with hx | hx
          · exact Or.inr (hrv (hpoperr ⟨x, hx, hid⟩))
          · exact Or.inl ⟨x, List.mem_cons_of_mem _ hx, hid⟩
        · exact Or.inr (hmono he)

theorem inv2_invariant (F : CertFacts T C) (G : TyFacts T TT) :
    Invariant T env (fun m s => Inv2 T C TT s ∧ Parts (fun l c => TokTy TT c l) (fun _ _ => True) m) EndOk := by
  refine .of_parts ?fuel ?lex ?shift ?reduce ?extra ?enter ?drop ?giveUp ?push
  case fuel => exact fun _ _ => trivial
  case lex => exact nextToken_inv2 T C TT G
  case shift =>
    intro s l c target h hl hs
    refine ⟨chain_shifted T C F h.chain hs l, ?_, ?_⟩
    · exact List.forall_mem_cons.mpr ⟨HasTy.mono False.elim _ _ hl, h.typed⟩
    · intro hrec
      rcases h.recok hrec with ⟨x, hx, hid⟩ | he
      · exact Or.inl ⟨x, List.mem_cons_of_mem _ hx, hid⟩
      · exact Or.inr he
  case reduce => exact fun s la r h _ hr => reduce_inv2 T C TT env F G s r _ h (redOK_of_fires T C F hr)
  case extra => exact fun _ _ _ _ _ _ => trivial
  case enter => exact fun _ _ _ _ => trivial
  case drop => exact fun _ _ _ _ _ _ => trivial
  case giveUp => exact fun _ _ _ _ _ => trivial
  case push =>
    intro s e d la top errState h _ _ htop hsh
    obtain ⟨hsyms, hchain⟩ := chain_pushed T C F h.chain htop hsh e (la.map (·.1)) d
    refine ⟨hchain, List.forall_mem_cons.mpr ⟨?_, fun y hy => h.typed y (List.mem_of_mem_drop (hsyms ▸ hy))⟩,
      fun _ => Or.inl ⟨_, List.mem_cons_self .., rfl⟩⟩
    show HasTy _ (symTy TT (T.ncols - 1)) _
    rw [G.err]
    trivial

theorem inv2_init (text : List Char) : Inv2 T C TT { input := text } :=
  ⟨Chain.base, (by intro x hx; cases hx), (by intro h; cases h)⟩

/-- **For every input**: the run ends in a state and outcome such that an accepted value is an
    `Option<Aidl>` which is `None` only if an Error has been reported, a stop inside an action is
    never a `shape`, `table` or `lexical` panic, and the driver itself never panics. -/
theorem parse_end_ok (F : CertFacts T C) (G : TyFacts T TT) (text : List Char) (fuel : Nat) :
    EndOk (parseLoop T env { input := text } fuel).1 (parseLoop T env { input := text } fuel).2 :=
  parseLoop_parts (inv2_invariant T C TT env F G) fuel _ (inv2_init T C TT text)

end Aidl.Props.LrTyped
