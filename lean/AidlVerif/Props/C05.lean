import AidlVerif.Spec.C05
import AidlVerif.Lemmas.Validate

/-! C05. `classify_eq` and `resolveTypes_eq` are in `Lemmas/Resolve.lean`. -/

namespace Aidl.Props.C05
open Aidl Aidl.Spec Aidl.Spec.C05

theorem nodes_validated {ho : HashOrder} {defined : Defined} {syn : List Diag} {ast : AidlFile} {g : Groups}
    (hg : validateGroups ho defined syn ast = .ok g) :
    nodes g.ast = (allTypesPre ast).map (fun t =>
      (t.name, t.sym, newKind (ast.imports.map Import.qname) (ast.declaredParcelables.map Import.qname) defined t)) := by
  rw [nodes, (validated hg).ast_eq, allTypesPre_setUpOneway, allTypesPre_mapTypes, List.map_map]
  simp only [Function.comp_def, Ty.mapKind_name, Ty.mapKind_sym, Ty.mapKind_kind]

/-- none of the diagnostics pushed by the other steps is an 'unknown type' Error (decidable;
    evaluated by the harness on every case). `DiagCtx.fresh_C05` proves it from the context
    messages of the syntax-stage diagnostics, hence of every parser output
    (`PipelineTotal.C05_holds_of_parsed`). -/
def Fresh (g : Groups) : Prop :=
  ∀ d ∈ g.syn ++ g.imports ++ g.decls ++ g.containers ++ g.oneway ++ g.methods, isUnknownType d = false

instance (g : Groups) : Decidable (Fresh g) := by unfold Fresh; infer_instance

theorem countP_map_unknownTypeDiag (l : List Ty) (q : Range → Bool) :
    (l.map unknownTypeDiag).countP (fun d => isUnknownType d && q d.range) = l.countP (fun t => q t.sym) := by
  rw [List.countP_map]
  congr 1

/-- **C05 for the model**: in the result of validating any file (any hash order, any project),
    every type reference at any depth carries the kind the scoping rule prescribes, each
    reference left unresolved has exactly one 'unknown type' Error on its name, and there is no
    other 'unknown type' Error. -/
theorem holds (ho : HashOrder) (defined : Defined) (fr out : FileResult)
    (h : validateFile ho defined fr = .ok out)
    (fresh : ∀ ast g, fr.ast = some ast → validateGroups ho defined fr.diags ast = .ok g → Fresh g) :
    holdsFile defined fr out = true := by
  obtain ⟨hast, rfl⟩ | ⟨ast, g, hast, hg, rfl⟩ := validateFile_eq_ok h
  · simp [holdsFile, hast]
  have V := validated hg
  -- any predicate below `isUnknownType` counts the same in the sorted whole as in `g.unknown`
  have sel : ∀ q : Range → Bool, (sortDiags g.all).countP (fun d => isUnknownType d && q d.range)
      = ((allTypesPre ast).filter (fun t => isUnresolved (kindIn defined ast t) && q t.sym)).length := by
    intro q
    rw [countP_group g.all_perm_unknown (fun d hd => by simp [fresh ast g hast hg d hd]), V.unknown_eq,
      countP_map_unknownTypeDiag, List.countP_filter, List.countP_eq_length_filter]
    simp only [Bool.and_comm]
  simp only [holdsFile, hast, nodes_validated hg, Bool.and_eq_true, beq_self_eq_true, true_and, List.all_eq_true,
    beq_iff_eq, unknownAt, List.filter_map, List.length_map, Function.comp_def]
  refine ⟨fun n _ => sel (· == n.2.1), ?_⟩
  simpa using sel (fun _ => true)

end Aidl.Props.C05
