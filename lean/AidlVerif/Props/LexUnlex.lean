import AidlVerif.Props.LexSpec

/-!
`IsLexeme j w`: `w` is, on its own, a lexeme of entry `j` (the cases of `TokenAt`, as conditions on `w` alone); `unlex ls`:
the lexemes joined by single blanks. For EVERY list of lexemes `LexesTo (unlex ls) ls` (`lex_unlex`): the lexer of this
run's table lexes the printed text back to exactly these lexemes, and every other layout of them has the tree of the
printed text, up to positions and documentation.
-/

namespace Aidl.Props.LexUnlex
open Aidl Aidl.Lr Aidl.Actions Aidl.Erase Aidl.Props.LrInv
open Aidl.Regex Aidl.Lexer Aidl.Javadoc Aidl.Props.JavadocTotal Aidl.Props.LexerBounds
  Aidl.Props.RegexSound Aidl.Props.JavadocSpec Aidl.Props.SkipEntries Aidl.Props.LexSkip Aidl.Props.LexerFuel Aidl.Props.LexIdent
  Aidl.Props.LexTokens Aidl.Props.LexNumbers Aidl.Props.LexRuns Aidl.Props.LexSpec

inductive IsLexeme : Nat → List Char → Prop
  | word (c : Char) (t : List Char) (j : Nat) :
      inCls identStartCls c = true → (∀ d ∈ t, isIdentPart d = true) →
      j < Gen.lexTable.size → fullOn j (c :: t) = true → (∀ i, i < Gen.lexTable.size → fullOn i (c :: t) = true → i ≤ j) →
      IsLexeme j (c :: t)
  | punct (j a : Nat) (c : Char) : (j, a) ∈ punctEntries → c.toNat = a → IsLexeme j [c]
  | str (body : List Char) : (∀ d ∈ body, isStrBody d = true) → IsLexeme strIdx ('"' :: body ++ ['"'])
  | ann (c : Char) (t : List Char) : inCls identStartCls c = true → (∀ d ∈ t, isIdentPart d = true) → IsLexeme annIdx ('@' :: c :: t)
  | number (c : Char) (t : List Char) (j : Nat) :
      inCls floatStart c = true →
      j < Gen.lexTable.size → fullOn j (c :: t) = true → (∀ i, i < Gen.lexTable.size → fullOn i (c :: t) = true → i ≤ j) →
      IsLexeme j (c :: t)
  | int (c : Char) (t : List Char) : isDigit c = true → (∀ d ∈ t, isDigit d = true) → IsLexeme intIdx (c :: t)
  | shared (j a o : Nat) : (j, a, o) ∈ sharedEntries → IsLexeme j [Char.ofNat a]

theorem blank_not_identPart : isIdentPart ' ' = false := by decide
theorem blank_not_float : inCls floatChars ' ' = false := by decide +kernel

/-- over every pair of entries, not over `sharedEntries`, whose own triple loop is dear to evaluate in the kernel;
    `mem_sharedEntries` says which pairs those are -/
theorem blankAfter_ok : ((List.range Gen.lexTable.size).all fun j =>
    match Gen.lexTable[j]! with
    | (.cls [(a, _)], false) =>
      (List.range Gen.lexTable.size).all fun o => !inCls (firstCls (deriv Gen.lexTable[o]!.1 (Char.ofNat a))) ' '
    | _ => true) = true := by decide +kernel

theorem sharedBlank_ok : sharedEntries.all (fun e => !inCls (firstCls (deriv Gen.lexTable[e.2.2]!.1 (Char.ofNat e.2.1))) ' ') = true := by
  rw [List.all_eq_true]
  intro ⟨j, a, o⟩ hmem
  obtain ⟨hj, ho, hent, _⟩ := (mem_sharedEntries j a o).mp hmem
  have := List.all_eq_true.mp blankAfter_ok j (List.mem_range.mpr hj)
  rw [hent] at this
  exact List.all_eq_true.mp this o (List.mem_range.mpr ho)

theorem IsLexeme.tokenAt {j : Nat} {w : List Char} (h : IsLexeme j w) (rest : List Char) (hr : ∀ d u, rest = d :: u → d = ' ') :
    TokenAt (w ++ rest) j w rest := by
  cases h with
  | word c t j hc ht hj hjf hmax =>
    exact TokenAt.word c t rest j hc ht (fun d u h => by rw [hr d u h]; exact blank_not_identPart) hj hjf hmax
  | punct j a c hmem hc => exact TokenAt.punct j a c rest hmem hc
  | str body hbody =>
    have : ('"' :: body ++ ['"']) ++ rest = '"' :: body ++ '"' :: rest := by simp
    rw [this]
    exact TokenAt.str body rest hbody
  | ann c t hc ht =>
    exact TokenAt.ann c t rest hc ht (fun d u h => by rw [hr d u h]; exact blank_not_identPart)
  | number c t j hc hj hjf hmax =>
    exact TokenAt.number c t rest j hc (fun d u h => by rw [hr d u h]; exact blank_not_float) hj hjf hmax
  | int c t hc ht =>
    exact TokenAt.int c t rest hc ht (fun d u h => by rw [hr d u h]; exact blank_not_float)
  | shared j a o hmem =>
    exact TokenAt.shared j a o rest hmem (fun d u h => by
      rw [hr d u h]
      have := List.all_eq_true.mp sharedBlank_ok (j, a, o) hmem
      simpa using this)

theorem IsLexeme.head_not_ws {j : Nat} {w : List Char} (h : IsLexeme j w) : ∃ c t, w = c :: t ∧ isWsChar c = false := by
  have ht := h.tokenAt [] (fun _ _ h => by cases h)
  rw [List.append_nil] at ht
  obtain ⟨c, t, rfl⟩ := List.exists_cons_of_ne_nil ht.shape.2
  refine ⟨c, t, rfl, ?_⟩
  -- the lexer returns the lexeme as a token that starts where the text starts; leading white space would be skipped first
  cases hws : isWsChar c with
  | false => rfl
  | true =>
    have htok := N_token ht 0
    have hrun : (c :: t).takeWhile isWsChar ≠ [] := by
      rw [List.takeWhile_cons_of_pos hws]
      simp
    unfold N at htok
    rw [← List.takeWhile_append_dropWhile (p := isWsChar) (l := c :: t),
      next_skips_ws _ _ _ 0 hrun (mem_takeWhile_imp isWsChar _)
        (dropWhile_head_not isWsChar _) (Nat.le_succ _)] at htok
    obtain ⟨sk, _, _, hstart, _⟩ := next_token_slice _ _ _ _ _ _ htok
    have := utf8Len_pos hrun
    simp only at hstart
    omega

def unlex : List (Nat × List Char) → List Char
  | [] => []
  | [(_, w)] => w
  | (_, w) :: l :: ls => w ++ ' ' :: unlex (l :: ls)

theorem LexesTo.blank {s : List Char} {toks : List (Nat × String)} (h : LexesTo s toks)
    (hs : ∀ c t, s = c :: t → isWsChar c = false) : LexesTo (' ' :: s) toks := by
  have hsk : ∀ r, Skips s r → Skips (' ' :: s) r := fun r hr =>
    Skips.ws [' '] s r (by simp) (fun c hc => by simp at hc; rw [hc]; decide) hs hr
  cases h with
  | eof _ hsk' => exact LexesTo.eof _ (hsk [] hsk')
  | tok _ s' w rest j toks hsk' ht hl => exact LexesTo.tok _ s' w rest j toks (hsk s' hsk') ht hl

theorem unlex_head (l : Nat × List Char) (ls : List (Nat × List Char)) (h : IsLexeme l.1 l.2) :
    ∀ c t, unlex (l :: ls) = c :: t → isWsChar c = false := by
  obtain ⟨c0, t0, hw, hc0⟩ := h.head_not_ws
  intro c t hu
  obtain ⟨j, w⟩ := l
  simp only at hw
  subst hw
  cases ls with
  | nil => simp only [unlex, List.cons.injEq] at hu; rw [← hu.1]; exact hc0
  | cons l' ls' => simp only [unlex, List.cons_append, List.cons.injEq] at hu; rw [← hu.1]; exact hc0

theorem lex_unlex : ∀ (ls : List (Nat × List Char)), (∀ l ∈ ls, IsLexeme l.1 l.2) →
    LexesTo (unlex ls) (ls.map fun l => (l.1, String.ofList l.2))
  | [], _ => LexesTo.eof _ (Skips.done _)
  | [(j, w)], h => by
    have hl : IsLexeme j w := h (j, w) (by simp)
    have ht := hl.tokenAt [] (fun _ _ h => by cases h)
    rw [List.append_nil] at ht
    exact LexesTo.tok _ _ w [] j [] (Skips.done _) ht (LexesTo.eof _ (Skips.done _))
  | (j, w) :: l :: ls, h => by
    have hl : IsLexeme j w := h (j, w) (by simp)
    have hl' : IsLexeme l.1 l.2 := h l (by simp)
    have ih := lex_unlex (l :: ls) (fun x hx => h x (List.mem_cons_of_mem _ hx))
    have ht := hl.tokenAt (' ' :: unlex (l :: ls)) (fun d u h => by cases h; rfl)
    exact LexesTo.tok _ _ w _ j _ (Skips.done _) ht (LexesTo.blank ih (unlex_head l ls hl'))

theorem lexToks_unlex (ls : List (Nat × List Char)) (h : ∀ l ∈ ls, IsLexeme l.1 l.2) :
    lexToks Driver.Parse.tables ((unlex ls).length + 1) (unlex ls) 0 = some (ls.map fun l => (l.1, String.ofList l.2), true) :=
  lexToks_of_lexesTo (lex_unlex ls h) _ 0 (Nat.lt_succ_self _)

theorem unlex_layouts_same_tree (env1 env2 : Env) (id1 id2 text1 text2 : String) (ls : List (Nat × List Char))
    (h : ∀ l ∈ ls, IsLexeme l.1 l.2) (hprint : text1.toList = unlex ls)
    (hE1 : EnvOk env1 text1.toList) (hE2 : EnvOk env2 text2.toList)
    (h2 : LexesTo text2.toList (ls.map fun l => (l.1, String.ofList l.2))) :
    ∃ r1 r2, addContentE Driver.Parse.tables env1 id1 text1 = .ok r1
      ∧ addContentE Driver.Parse.tables env2 id2 text2 = .ok r2
      ∧ r1.ast.map erAidl = r2.ast.map erAidl :=
  relayout_same_tree env1 env2 id1 id2 text1 text2 hE1 hE2 _ (by rw [hprint]; exact lex_unlex ls h) h2

theorem isLexeme_of_tokenAt {s w rest : List Char} {j : Nat} (h : TokenAt s j w rest) : IsLexeme j w := by
  cases h with
  | word c t rest j hc ht _ hj hjf hmax => exact IsLexeme.word c t j hc ht hj hjf hmax
  | punct j a c rest hmem hc => exact IsLexeme.punct j a c hmem hc
  | str body rest hb => exact IsLexeme.str body hb
  | ann c t rest hc ht _ => exact IsLexeme.ann c t hc ht
  | int c t rest hc ht _ => exact IsLexeme.int c t hc ht
  | number c t rest j hc _ hj hjf hmax => exact IsLexeme.number c t j hc hj hjf hmax
  | shared j a o rest hmem _ => exact IsLexeme.shared j a o hmem

theorem lexemes_of_lexesTo {s : List Char} {toks : List (Nat × String)} (h : LexesTo s toks) :
    ∃ ls : List (Nat × List Char), (∀ l ∈ ls, IsLexeme l.1 l.2) ∧ toks = ls.map fun l => (l.1, String.ofList l.2) := by
  induction h with
  | eof s _ => exact ⟨[], ⟨fun _ h => (by cases h), rfl⟩⟩
  | tok s s' w rest j toks _ ht _ ih =>
    obtain ⟨ls, hl, htoks⟩ := ih
    refine ⟨(j, w) :: ls, ⟨fun l hm => ?_, by rw [htoks]; rfl⟩⟩
    rcases List.mem_cons.mp hm with h | h
    · rw [h]; exact isLexeme_of_tokenAt ht
    · exact hl l h

/-- Normal form (C02): every text of the specification has the tree, up to positions and documentation, of the text that
    prints its lexemes with single blanks. -/
theorem canonical_same_tree (env1 : Env) (id1 text1 : String) (hE1 : EnvOk env1 text1.toList) (toks : List (Nat × String))
    (h1 : LexesTo text1.toList toks) :
    ∃ ls : List (Nat × List Char), (∀ l ∈ ls, IsLexeme l.1 l.2) ∧ toks = (ls.map fun l => (l.1, String.ofList l.2)) ∧
      ∀ (env2 : Env) (id2 text2 : String), text2.toList = unlex ls → EnvOk env2 text2.toList →
        ∃ r1 r2, addContentE Driver.Parse.tables env1 id1 text1 = .ok r1
          ∧ addContentE Driver.Parse.tables env2 id2 text2 = .ok r2
          ∧ r1.ast.map erAidl = r2.ast.map erAidl := by
  obtain ⟨ls, hl, htoks⟩ := lexemes_of_lexesTo h1
  exact ⟨ls, hl, htoks, fun env2 id2 text2 hprint hE2 =>
    relayout_same_tree env1 env2 id1 id2 text1 text2 hE1 hE2 toks h1 (by rw [hprint, htoks]; exact lex_unlex ls hl)⟩

example : IsLexeme identIdx "foo".toList :=
  IsLexeme.word 'f' "oo".toList identIdx (by decide) (by decide) identIdx_entry.1
    (LexWords.identIdx_full _ _ (by decide) (by decide)) (by decide +kernel)
example : IsLexeme floatIdx "1.5f".toList :=
  IsLexeme.number '1' ".5f".toList floatIdx (by decide +kernel) (by decide +kernel) (by decide +kernel) (by decide +kernel)
example : IsLexeme intIdx "42".toList := IsLexeme.int '4' "2".toList (by decide) (by decide)

end Aidl.Props.LexUnlex
