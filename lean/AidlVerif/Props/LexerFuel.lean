import AidlVerif.Props.LexerBounds

/-!
The regex matcher iterates `star` at most `fuel` times, the lexer loop skips at most `fuel` matches. Once `fuel` exceeds
the length of the remaining input neither result depends on it (an iteration must make progress, so there are at most as
many as characters): the model's lexer computes the unbounded semantics, for every table and input.
-/

open Aidl.Regex Aidl.Lexer Aidl.Javadoc Aidl.Props.JavadocTotal Aidl.Props.RegexSound Aidl.Props.LexerBounds

-- `Reach` speaks of positions in a text, not of fuel, and has the namespace of `LexerBounds`; it stands here because its
-- only user is `Agree` below
namespace Aidl.Props.LexerBounds

/-- where a matcher started at `(s0, p0)` can call its continuation -/
def Reach (s0 : List Char) (p0 : Nat) (s : List Char) (p : Nat) : Prop :=
  ∃ pre, s0 = pre ++ s ∧ p = p0 + utf8Len pre

theorem Reach.refl (s : List Char) (p : Nat) : Reach s p s p := ⟨[], rfl, by simp [utf8Len_nil]⟩

theorem Reach.trans {s0 p0 s1 p1 s2 p2} (h1 : Reach s0 p0 s1 p1) (h2 : Reach s1 p1 s2 p2) : Reach s0 p0 s2 p2 := by
  obtain ⟨a, ha, hpa⟩ := h1
  obtain ⟨b, hb, hpb⟩ := h2
  exact ⟨a ++ b, by rw [ha, hb]; simp, by rw [hpb, hpa, utf8Len_append]; omega⟩

theorem Reach.len {s0 p0 s p} (h : Reach s0 p0 s p) : s.length ≤ s0.length ∧ (p0 < p → s.length < s0.length) := by
  obtain ⟨pre, h1, h2⟩ := h
  rw [h1, List.length_append]
  refine ⟨by omega, fun hlt => ?_⟩
  have : pre ≠ [] := fun h0 => by
    rw [h0, utf8Len_nil] at h2
    omega
  have := List.length_pos_iff.mpr this
  omega

end Aidl.Props.LexerBounds

namespace Aidl.Props.LexerFuel

def Agree (s : List Char) (p : Nat) (k1 k2 : K) : Prop := ∀ s' p', Reach s p s' p' → k1 s' p' = k2 s' p'

theorem Agree.from {s p s' p' k1 k2} (h : Agree s p k1 k2) (hr : Reach s p s' p') : Agree s' p' k1 k2 :=
  fun s'' p'' hr' => h s'' p'' (hr.trans hr')

/-- The bounds are strict for convenience (`m_star_cls`, `matchAt_complete` and the `matchAt_*` of `SkipEntries` take `≤`):
    with `s.length = f` the last iteration of a `star` would start on the empty rest, where it can make no progress, and
    the induction for `star` below would need that as a further case. The lexer model runs with `|s| + 1`. -/
theorem m_fuel (r : Re) (f1 f2 : Nat) :
    ∀ (s : List Char) (p : Nat) (k1 k2 : K), s.length < f1 → s.length < f2 → Agree s p k1 k2 →
      m r f1 s p k1 = m r f2 s p k2 := by
  induction r with
  | eps => intro s p k1 k2 _ _ hk; simp only [m]; exact hk s p (Reach.refl s p)
  | cls rs =>
    intro s p k1 k2 _ _ hk
    cases s with
    | nil => simp [m]
    | cons c s' =>
      simp only [m]
      split
      · exact hk _ _ ⟨[c], rfl, by rw [utf8Len_cons, utf8Len_nil, Nat.add_zero]⟩
      · rfl
  | seq a b iha ihb =>
    intro s p k1 k2 h1 h2 hk
    simp only [m]
    apply iha s p _ _ h1 h2
    intro s' p' hr
    have := hr.len.1
    exact ihb s' p' k1 k2 (by omega) (by omega) (hk.from hr)
  | alt a b iha ihb =>
    intro s p k1 k2 h1 h2 hk
    simp only [m]
    rw [iha s p k1 k2 h1 h2 hk, ihb s p k1 k2 h1 h2 hk]
  | star a iha =>
    intro s p k1 k2 h1 h2 hk
    simp only [m]
    -- every iteration consumes a character, so neither loop bound is reached: induction on the first
    have key : ∀ (n1 n2 : Nat) (s' : List Char) (p' : Nat), s'.length < n1 → s'.length < n2 → s'.length < f1 → s'.length < f2 →
        Agree s' p' k1 k2 → starLoop (m a f1) k1 n1 s' p' = starLoop (m a f2) k2 n2 s' p' := by
      intro n1
      induction n1 with
      | zero => intro n2 s' p' h; omega
      | succ n1 ih =>
        intro n2 s' p' hn1 hn2 hf1 hf2 hk'
        obtain ⟨n2, rfl⟩ : ∃ n, n2 = n + 1 := ⟨n2 - 1, by omega⟩
        unfold starLoop
        rw [iha s' p' _ (fun s'' p'' => if p' < p'' then starLoop (m a f2) k2 n2 s'' p'' else none) hf1 hf2,
          hk' s' p' (Reach.refl s' p')]
        intro s'' p'' hr
        dsimp only
        split
        · rename_i hlt
          have := hr.len.2 hlt
          exact ih n2 s'' p'' (by omega) (by omega) (by omega) (by omega) (hk'.from hr)
        · rfl
    exact key f1 f2 s p h1 h2 h1 h2 hk

theorem matchAt_fuel (r : Re) (f1 f2 : Nat) (s : List Char) (p : Nat) (h1 : s.length < f1) (h2 : s.length < f2) :
    matchAt r f1 s p = matchAt r f2 s p := by
  unfold matchAt
  exact m_fuel r f1 f2 s p _ _ h1 h2 (fun _ _ _ => rfl)

theorem bestMatch_fuel (table : LexTable) (f1 f2 : Nat) (s : List Char) (p : Nat) (h1 : s.length < f1) (h2 : s.length < f2) :
    bestMatch table f1 s p = bestMatch table f2 s p := by
  unfold bestMatch
  congr 1
  funext best i
  rw [matchAt_fuel _ f1 f2 s p h1 h2]

theorem next_fuel (table : LexTable) :
    ∀ (f1 f2 : Nat) (s : List Char) (p : Nat), s.length < f1 → s.length < f2 → next table f1 s p = next table f2 s p := by
  intro f1
  induction f1 with
  | zero => intro f2 s p h; omega
  | succ f1 ih =>
    intro f2 s p h1 h2
    obtain ⟨f2, rfl⟩ : ∃ n, f2 = n + 1 := ⟨f2 - 1, by omega⟩
    by_cases hs : s = []
    · subst hs
      rw [next_nil, next_nil]
    · have hbf := bestMatch_fuel table (f1 + 1) (f2 + 1) s p h1 h2
      cases hb : bestMatch table (f2 + 1) s p with
      | none => rw [next_none hs hb, next_none hs (hbf ▸ hb)]
      | some b =>
        obtain ⟨L, j⟩ := b
        obtain ⟨_, ⟨pre, post, rfl, rfl, _, _⟩, _⟩ := bestMatch_some hb
        rw [next_step hs hb, next_step hs (hbf ▸ hb)]
        split
        · split
          · rfl
          · rename_i hne
            have := List.length_pos_iff.mpr (fun h0 => hne (utf8Len_eq_zero.mpr h0))
            rw [List.length_append] at h1 h2
            exact ih f2 post _ (by omega) (by omega)
        · rfl

end Aidl.Props.LexerFuel
