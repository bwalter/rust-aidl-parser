import AidlVerif.Props.SkipEntries
import AidlVerif.Props.LexerProgress

/-!
`firstCls r` over-approximates the characters a non-empty word of `r` can begin with. `others_empty` is the one soundness
lemma of the first-character checks that the kernel evaluates over THIS run's lexer table (`othersMissWs`: no entry but
the white-space entry can begin with a white-space character, `othersMissSlash`, …). With them the lexer passes over
leading white space and comments, for every text.
-/

namespace Aidl.Props.LexSkip
open Aidl.Regex Aidl.Lexer Aidl.Javadoc Aidl.Props.JavadocTotal Aidl.Props.LexerBounds
  Aidl.Props.RegexSound Aidl.Props.JavadocSpec Aidl.Props.SkipEntries

/-- the same function as `LexerProgress.nullable` (`nullable_eq`), under the name that `firstCls`, `LexNumbers.deriv` and
    the table checks are written with -/
def nullable : Re → Bool
  | .eps => true
  | .cls _ => false
  | .seq a b => nullable a && nullable b
  | .alt a b => nullable a || nullable b
  | .star _ => true

theorem nullable_eq : ∀ r, nullable r = LexerProgress.nullable r
  | .eps | .cls _ | .star _ => rfl
  | .seq a b | .alt a b => by simp only [nullable, LexerProgress.nullable, nullable_eq a, nullable_eq b]

theorem matches_nil_nullable {r : Re} {w : List Char} (h : Matches r w) (hw : w = []) : nullable r = true := by
  rw [nullable_eq]
  exact LexerProgress.matches_nil_nullable h hw

def firstCls : Re → List (Nat × Nat)
  | .eps => []
  | .cls rs => rs
  | .seq a b => firstCls a ++ (if nullable a then firstCls b else [])
  | .alt a b => firstCls a ++ firstCls b
  | .star a => firstCls a

theorem inCls_append (a b : List (Nat × Nat)) (c : Char) : inCls (a ++ b) c = (inCls a c || inCls b c) := by
  simp [inCls, List.any_append]

theorem first_sound {r : Re} {w : List Char} (h : Matches r w) : ∀ c t, w = c :: t → inCls (firstCls r) c = true := by
  induction h with
  | eps => intro c t h; cases h
  | cls rs d hd => intro c t h; cases h; exact hd
  | seq a b u v hu _ iha ihb =>
    intro c t h
    simp only [firstCls, inCls_append, Bool.or_eq_true]
    cases u with
    | nil =>
      right
      have hn := matches_nil_nullable hu rfl
      simp only [hn, if_true]
      exact ihb c t (by simpa using h)
    | cons x y =>
      left
      simp only [List.cons_append, List.cons.injEq] at h
      exact iha c y (by rw [h.1])
  | altL a b u _ ih =>
    intro c t h
    simp only [firstCls, inCls_append, Bool.or_eq_true]
    exact Or.inl (ih c t h)
  | altR a b u _ ih =>
    intro c t h
    simp only [firstCls, inCls_append, Bool.or_eq_true]
    exact Or.inr (ih c t h)
  | starNil a => intro c t h; cases h
  | starCons a u v _ _ iha ihs =>
    intro c t h
    cases u with
    | nil => exact ihs c t (by simpa using h)
    | cons x y =>
      simp only [List.cons_append, List.cons.injEq] at h
      exact iha c y (by rw [h.1])

def disjointCls (a b : List (Nat × Nat)) : Bool := a.all fun r => b.all fun s => decide (r.2 < s.1) || decide (s.2 < r.1)

theorem disjoint_sound (a b : List (Nat × Nat)) (h : disjointCls a b = true) (c : Char) (ha : inCls a c = true) : inCls b c = false := by
  cases hb : inCls b c with
  | false => rfl
  | true =>
    unfold inCls at ha hb
    obtain ⟨r, hr, hrc⟩ := List.any_eq_true.mp ha
    obtain ⟨s, hs, hsc⟩ := List.any_eq_true.mp hb
    have := List.all_eq_true.mp (List.all_eq_true.mp h r hr) s hs
    simp only [Bool.and_eq_true, Bool.or_eq_true, decide_eq_true_eq] at hrc hsc this
    omega

theorem matchAt_outside (r : Re) (f : Nat) (c : Char) (s : List Char) (p e : Nat) (hc : inCls (firstCls r) c = false)
    (h : matchAt r f (c :: s) p = some e) : e = p := by
  obtain ⟨w, s', hs, hw, he⟩ := matchAt_sound r f _ p e h
  cases w with
  | nil => simpa [utf8Len_nil] using he
  | cons x y =>
    have hx : x = c := by simpa using (List.cons.inj hs).1.symm
    have := first_sound hw x y rfl
    rw [hx, hc] at this; cases this

/-- entry `i` matches nothing non-empty here; `bestMatch_single`, `next_unique` and `next_invalid` spell it out in their
    hypotheses and take an `EmptyAt` by unfolding -/
def EmptyAt (table : LexTable) (f : Nat) (s : List Char) (p i : Nat) : Prop :=
  matchAt table[i]!.1 f s p = none ∨ matchAt table[i]!.1 f s p = some p

theorem EmptyAt.eq {table : LexTable} {f : Nat} {s : List Char} {p i e : Nat} (h : EmptyAt table f s p i)
    (he : matchAt table[i]!.1 f s p = some e) : e = p := by
  rcases h with h | h
  · rw [h] at he
    cases he
  · rw [h] at he
    cases he
    rfl

theorem emptyAt_default (table : LexTable) (f : Nat) (s : List Char) (p i : Nat) (h : ¬ i < table.size) : EmptyAt table f s p i := by
  have : table[i]! = default := by
    rw [getElem!_def, Array.getElem?_eq_none (by omega)]
  rw [EmptyAt, this]
  exact Or.inr rfl

theorem emptyAt_of_disjoint {table : LexTable} {i : Nat} {cls : List (Nat × Nat)} (h : disjointCls cls (firstCls table[i]!.1) = true)
    {c : Char} (hc : inCls cls c = true) (f : Nat) (s : List Char) (p : Nat) : EmptyAt table f (c :: s) p i := by
  cases hm : matchAt table[i]!.1 f (c :: s) p with
  | none => exact Or.inl hm
  | some e =>
    rw [matchAt_outside _ f c s p e (disjoint_sound _ _ h c hc) hm] at hm
    exact Or.inr hm

theorem others_empty {table : LexTable} (ex : Nat → Bool) (cls : List (Nat × Nat))
    (h : ((List.range table.size).all fun i => ex i || disjointCls cls (firstCls table[i]!.1)) = true)
    {c : Char} (hc : inCls cls c = true) (f : Nat) (s : List Char) (p i : Nat) (hex : ex i = false) :
    EmptyAt table f (c :: s) p i := by
  by_cases hi : i < table.size
  · have := List.all_eq_true.mp h i (List.mem_range.mpr hi)
    rw [hex, Bool.false_or] at this
    exact emptyAt_of_disjoint this hc f s p
  · exact emptyAt_default table f _ p i hi

theorem bestMatch_single (table : LexTable) (f : Nat) (s : List Char) (p j L : Nat) (hjs : j < table.size) (hL : 0 < L)
    (hj : matchAt table[j]!.1 f s p = some (p + L))
    (hothers : ∀ i, i ≠ j → matchAt table[i]!.1 f s p = none ∨ matchAt table[i]!.1 f s p = some p) :
    bestMatch table f s p = some (L, j) := by
  refine bestMatch_of_longest hjs hj fun i e _ he => ?_
  by_cases hij : i = j
  · subst hij
    rw [hj] at he
    cases he
    exact ⟨Nat.le_refl _, fun h => absurd h (Nat.lt_irrefl _)⟩
  · have := EmptyAt.eq (hothers i hij) he
    exact ⟨by omega, fun _ => by omega⟩

def wsIdx : Nat := Gen.lexTable.toList.idxOf (wsRe, true)

theorem wsIdx_entry : wsIdx < Gen.lexTable.size ∧ Gen.lexTable[wsIdx]! = (wsRe, true) := entry_at_idxOf ws_entry

def othersMissWs : Bool :=
  (List.range Gen.lexTable.size).all fun i => i == wsIdx || disjointCls wsCls (firstCls Gen.lexTable[i]!.1)

theorem othersMissWs_ok : othersMissWs = true := by decide +kernel

theorem next_skips_ws (fuel : Nat) (run rest : List Char) (p : Nat) (hne : run ≠ [])
    (hrun : ∀ c ∈ run, isWsChar c = true) (hout : ∀ c t, rest = c :: t → isWsChar c = false)
    (hf : (run ++ rest).length ≤ fuel + 1) :
    next Gen.lexTable (fuel + 1) (run ++ rest) p = next Gen.lexTable fuel rest (p + utf8Len run) := by
  -- the white-space entry matches the run, no other entry matches anything non-empty
  have hws : matchAt Gen.lexTable[wsIdx]!.1 (fuel + 1) (run ++ rest) p = some (p + utf8Len run) := by
    rw [wsIdx_entry.2, matchAt_ws (fuel + 1) (run ++ rest) p hf, (span_run isWsChar run rest hrun hout).1]
  refine next_skip_of hne (bestMatch_single _ _ _ p wsIdx _ wsIdx_entry.1 (utf8Len_pos hne) hws fun i hi => ?_)
    (by rw [wsIdx_entry.2])
  obtain ⟨c, t, rfl⟩ := List.exists_cons_of_ne_nil hne
  exact others_empty (· == wsIdx) wsCls othersMissWs_ok (hrun c (by simp)) _ _ p i (by simpa using hi)

def lineIdx : Nat := Gen.lexTable.toList.idxOf (lineRe, true)
def blockIdx : Nat := Gen.lexTable.toList.idxOf (blockRe, true)

theorem lineIdx_entry : lineIdx < Gen.lexTable.size ∧ Gen.lexTable[lineIdx]! = (lineRe, true) := entry_at_idxOf line_entry
theorem blockIdx_entry : blockIdx < Gen.lexTable.size ∧ Gen.lexTable[blockIdx]! = (blockRe, true) := entry_at_idxOf block_entry
theorem line_ne_block : lineIdx ≠ blockIdx := by decide +kernel

def othersMissSlash : Bool :=
  (List.range Gen.lexTable.size).all fun i => i == lineIdx || i == blockIdx || disjointCls slashCls (firstCls Gen.lexTable[i]!.1)

theorem othersMissSlash_ok : othersMissSlash = true := by decide +kernel

theorem others_at_slash (f : Nat) (s : List Char) (p i : Nat) (h1 : i ≠ lineIdx) (h2 : i ≠ blockIdx) :
    EmptyAt Gen.lexTable f ('/' :: s) p i :=
  others_empty (fun i => i == lineIdx || i == blockIdx) slashCls othersMissSlash_ok (by decide) f s p i (by simp [h1, h2])

/-- by evaluation: the second class rejects the second character, whatever `f` and `t` -/
theorem block_at_line (f : Nat) (t : List Char) (p : Nat) : matchAt blockRe f ('/' :: '/' :: t) p = none := rfl

theorem line_at_block (f : Nat) (t : List Char) (p : Nat) : matchAt lineRe f ('/' :: '*' :: t) p = none := rfl

theorem next_skips_line (fuel : Nat) (t : List Char) (p : Nat) (hf : t.length + 2 ≤ fuel + 1) :
    next Gen.lexTable (fuel + 1) ('/' :: '/' :: t) p
      = next Gen.lexTable fuel ((t.dropWhile isNotEol).dropWhile isEol)
          (p + (2 + utf8Len (t.takeWhile isNotEol) + utf8Len ((t.dropWhile isNotEol).takeWhile isEol))) := by
  let pre := '/' :: '/' :: (t.takeWhile isNotEol ++ (t.dropWhile isNotEol).takeWhile isEol)
  have hsplit : '/' :: '/' :: t = pre ++ (t.dropWhile isNotEol).dropWhile isEol := by
    simp only [pre, List.cons_append, List.append_assoc, List.takeWhile_append_dropWhile]
  have hlen : utf8Len pre = 2 + utf8Len (t.takeWhile isNotEol) + utf8Len ((t.dropWhile isNotEol).takeWhile isEol) := by
    simp only [pre, utf8Len_cons, utf8Len_append, slash_size]
    omega
  have hline : matchAt Gen.lexTable[lineIdx]!.1 (fuel + 1) ('/' :: '/' :: t) p = some (p + utf8Len pre) := by
    rw [lineIdx_entry.2, matchAt_line (fuel + 1) t p (by omega), hlen]
    congr 1
    omega
  have hbest := bestMatch_single _ _ _ p lineIdx _ lineIdx_entry.1 (utf8Len_pos (List.cons_ne_nil _ _)) hline fun i hi => by
    by_cases hb : i = blockIdx
    · subst hb
      rw [blockIdx_entry.2]
      exact Or.inl (block_at_line _ t p)
    · exact others_at_slash _ _ p i hi hb
  rw [hsplit] at hbest ⊢
  rw [next_skip_of (List.cons_ne_nil _ _) hbest (by rw [lineIdx_entry.2]), hlen]

theorem next_skips_block (fuel : Nat) (u rest : List Char) (p : Nat) (hclose : firstClose false u 0 = some u.length)
    (hf : ('/' :: '*' :: (u ++ rest)).length ≤ fuel + 1) :
    next Gen.lexTable (fuel + 1) ('/' :: '*' :: (u ++ rest)) p = next Gen.lexTable fuel rest (p + utf8Len ('/' :: '*' :: u)) := by
  have hblock : matchAt Gen.lexTable[blockIdx]!.1 (fuel + 1) ('/' :: '*' :: (u ++ rest)) p = some (p + utf8Len ('/' :: '*' :: u)) := by
    rw [blockIdx_entry.2]
    exact matchAt_block (fuel + 1) u rest p hclose hf
  have hbest := bestMatch_single _ _ _ p blockIdx _ blockIdx_entry.1 (utf8Len_pos (List.cons_ne_nil _ _)) hblock fun i hi => by
    by_cases hl : i = lineIdx
    · subst hl
      rw [lineIdx_entry.2]
      exact Or.inl (line_at_block _ _ p)
    · exact others_at_slash _ _ p i hl hi
  exact next_skip_of (pre := '/' :: '*' :: u) (List.cons_ne_nil _ _) hbest (by rw [blockIdx_entry.2])

end Aidl.Props.LexSkip
