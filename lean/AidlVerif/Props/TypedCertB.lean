import AidlVerif.Props.TypedCertDefs
namespace Aidl.Props.LrTyped
open Aidl Aidl.Props.Typed
/-- every production hands its symbols' types to its action and receives its left-hand side's type
    (kernel evaluation; an index into an array literal is dearer there than into its list) -/
theorem tables_typed : tablesOk Driver.Parse.tables tt = true := by
  unfold tablesOk prodOk prodParams symTy TyTables.rankOf TyTables.reportsOf
  simp only [← Array.getElem?_toList]
  decide +kernel
end Aidl.Props.LrTyped
