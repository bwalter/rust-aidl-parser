import AidlVerif.Props.LrComplete

/-!
`GoodCfg` (from `LrComplete.derives_good`) says that the automaton of the tables accepts from the
current state stack and remaining tokens. The model of `lalrpop_util`'s driver makes the same moves
(it reads the same ACTION entries), so it never meets an empty entry: it never enters
`error_recovery`, never reports a parse error, and ends by accepting — unless it stops (a panic or
the step bound, excluded by `addContent_total`).
-/

namespace Aidl.Props.LrComplete
open Aidl Aidl.Lr Aidl.Actions Aidl.Lexer Aidl.Props.LrSound Aidl.Props.LrDriver

variable (T : Tables) (env : Env)

inductive LexCols : List Char → Nat → List Nat → Prop
  | eof {i : List Char} {p : Nat} : Lexer.next T.lex (i.length + 1) i p = .eof → LexCols i p []
  | tok {i : List Char} {p : Nat} {t : Token} {r : List Char} {c : Nat} {w : List Nat} :
      Lexer.next T.lex (i.length + 1) i p = .token t r → T.tokToCol.lookup t.index = some c →
      LexCols r t.stop w → LexCols i p (c :: w)

theorem reduce_cases (s : St) (p : Nat) (la : Option Nat) :
    Holds (fun s' _ => ∃ prod, T.prods[p]? = some prod ∧ prod.accept = false
        ∧ s'.states = gotoOf T ((s.states.drop prod.pops).headD 0) prod.nt :: s.states.drop prod.pops
        ∧ s'.input = s.input ∧ s'.pos = s.pos ∧ s'.recovered = s.recovered ∧ s'.hist = s.hist)
      (fun s' o => Stops o ∨ ∃ v prod, o = .accept v ∧ T.prods[p]? = some prod ∧ prod.accept = true
        ∧ s'.recovered = s.recovered ∧ s'.hist = s.hist)
      (ofRed (reduce T env s p la)) := by
  unfold reduce
  cases hp : T.prods[p]? with
  | none => exact Or.inl trivial
  | some prod =>
    dsimp only
    split
    · exact Or.inl trivial
    · split
      · exact Or.inl trivial
      · unfold reduceCore
        dsimp only
        cases (ReaderT.run (evalAction T.actions 16 prod.action _) env).run s.diags with
        | error e => exact Or.inl trivial
        | ok r =>
          obtain ⟨v, ds⟩ := r
          dsimp only
          unfold reducePush
          dsimp only
          split
          · next hacc => exact Or.inr ⟨v, prod, rfl, rfl, hacc, rfl, rfl⟩
          · next hacc =>
            split
            · exact Or.inl trivial
            · exact ⟨prod, rfl, by simpa using hacc, rfl, rfl, rfl, rfl, rfl⟩

theorem stops_endOutcome {o : Outcome} (la : La) (h : Stops o) : Stops (endOutcome la o) :=
  endOutcome_imp la h fun _ _ _ _ ho => (ho ▸ h).elim

theorem parseInner_holds : ∀ (fuel : Nat) (s : St) (la : Token) (c : Nat) (w : List Nat), GoodCfg T s.states (c :: w) →
    Holds (fun s' _ => GoodCfg T s'.states w ∧ s'.input = s.input ∧ s'.pos = s.pos ∧ s'.recovered = s.recovered)
      (fun _ o => Stops o) (parseInner T env s la c fuel) := by
  intro fuel
  induction fuel with
  | zero => intro s la c w _; unfold parseInner; trivial
  | succ f ih =>
    intro s la c w h
    rw [parseInner_succ]
    generalize hst : s.states = st at h
    cases h with
    | shift hs K =>
      rename_i q σ t
      rw [topState_of_cons hst, hs]
      show GoodCfg T (t :: s.states) w ∧ _
      rw [hst]
      exact ⟨K, rfl, rfl, rfl⟩
    | red hr hp hacc K =>
      rename_i q σ p prod
      simp only [List.head?_cons, laAction] at hr
      rw [topState_of_cons hst, asShift_none_of_reduce hr, hr]
      refine ((reduce_cases T env s p (some la.start)).imp (fun _ _ hx => hx) ?_).mapEnd.bind fun s' _ h' => ?_
      · rintro s' o (hstop | ⟨v, prod', _, hp', hacc', _, _⟩)
        · exact stops_endOutcome _ hstop
        · cases hp.symm.trans hp'
          cases hacc.symm.trans hacc'
      · obtain ⟨prod', hp', _, hst', hin, hpos, hrec, _⟩ := h'
        cases hp.symm.trans hp'
        rw [hst] at hst'
        refine (ih s' la c w (by rw [hst']; exact K)).imp ?_ fun _ _ ho => ho
        rintro s'' _ ⟨h1, h2, h3, h4⟩
        exact ⟨h1, h2.trans hin, h3.trans hpos, h4.trans hrec⟩

/-- `parseInner_holds` with `Holds` written out -/
theorem parseInner_good : ∀ (fuel : Nat) (s : St) (la : Token) (c : Nat) (w : List Nat), GoodCfg T s.states (c :: w) →
    match parseInner T env s la c fuel with
    | (s', .inl ()) => GoodCfg T s'.states w ∧ s'.input = s.input ∧ s'.pos = s.pos ∧ s'.recovered = s.recovered
    | (_, .inr o) => Stops o := by
  intro fuel s la c w h
  have := parseInner_holds T env fuel s la c w h
  revert this
  cases parseInner T env s la c fuel with
  | mk s' x =>
    cases x with
    | inl u => exact id
    | inr o => exact id

def AccOrStop (rec0 : Bool) (r : St × Outcome) : Prop :=
  Stops r.2 ∨ (∃ v, r.2 = .accept v ∧ r.1.recovered = rec0)

theorem accOrStop_iff (rec0 : Bool) (r : St × Outcome) :
    AccOrStop rec0 r ↔
      Holds (α := Empty) (fun _ _ => True) (fun s o => Stops o ∨ ∃ v, o = .accept v ∧ s.recovered = rec0) (ofEnd r) :=
  Iff.rfl

theorem GoodCfg.eof {st : List Nat} (h : GoodCfg T st []) :
    ∃ q σ p prod, st = q :: σ ∧ asReduce (eofActionAt T q) = some p ∧ T.prods[p]? = some prod
      ∧ (prod.accept = false →
          GoodCfg T (gotoOf T (((q :: σ).drop prod.pops).headD 0) prod.nt :: (q :: σ).drop prod.pops) []) := by
  cases h with
  | acc hr hp hacc => exact ⟨_, _, _, _, rfl, hr, hp, fun h => by rw [hacc] at h; cases h⟩
  | red hr hp _ K => exact ⟨_, _, _, _, rfl, hr, hp, fun _ => K⟩

theorem parseEof_good : ∀ (fuel : Nat) (s : St), GoodCfg T s.states [] → AccOrStop s.recovered (parseEof T env s fuel) := by
  intro fuel
  induction fuel with
  | zero => intro s _; unfold parseEof; exact Or.inl trivial
  | succ f ih =>
    intro s h
    rw [accOrStop_iff, parseEof_succ]
    obtain ⟨q, σ, p, prod, hst, hr, hp, K⟩ := h.eof
    rw [topState_of_cons hst, hr]
    -- the accepting reduction ends the run, any other goes on in a good configuration
    refine ((reduce_cases T env s p none).imp (fun _ _ hx => hx) ?_).bind fun s' _ h' => ?_
    · rintro s' o (hstop | ⟨v, _, rfl, _, _, hrec, _⟩)
      · exact Or.inl hstop
      · exact Or.inr ⟨v, rfl, hrec⟩
    · obtain ⟨prod', hp', hacc', hst', _, _, hrec, _⟩ := h'
      cases hp.symm.trans hp'
      have := ih s' (by rw [hst', hst]; exact K hacc')
      rw [hrec] at this
      exact this

theorem parseLoop_good : ∀ (fuel : Nat) (s : St) (w : List Nat), GoodCfg T s.states w → LexCols T s.input s.pos w →
    AccOrStop s.recovered (parseLoop T env s fuel) := by
  intro fuel
  induction fuel with
  | zero => intro s w _ _; unfold parseLoop; exact Or.inl trivial
  | succ f ih =>
    intro s w h hl
    rw [accOrStop_iff, parseLoop_succ]
    unfold nextToken
    cases hl with
    | eof hn =>
      rw [hn]
      exact parseEof_good T env f s h
    | tok hn hc hr =>
      rename_i t r c w'
      rw [hn]
      dsimp only
      rw [hc]
      refine ((parseInner_holds T env f { s with input := r, pos := t.stop, last := t.stop } t c w' h).imp
        (fun _ _ hx => hx) fun _ _ ho => Or.inl ho).bind fun s' _ h' => ?_
      obtain ⟨hg, hin, hpos, hrec⟩ := h'
      have := ih s' w' hg (by rw [hin, hpos]; exact hr)
      rw [hrec] at this
      exact this

/-- **Completeness, generic over the tables**: if the text lexes to a token sequence that is derivable
    from the accepting production, the run of the parser either stops (panic / step bound) or accepts
    — and error recovery never runs. -/
theorem parse_complete_gen (I : Items) (F : ItemFacts T I) (text : List Char) (w : List Nat) (fuel : Nat)
    (hl : LexCols T text 0 w) (hd : Derives T w) :
    AccOrStop false (parseLoop T env { input := text } fuel) :=
  parseLoop_good T env fuel { input := text } w (derives_good T I F w hd) hl

end Aidl.Props.LrComplete
