import AidlVerif.Spec.C08
import AidlVerif.Lemmas.Validate

namespace Aidl.Props.C08
open Aidl Aidl.Spec Aidl.Spec.C08

/-- the shape of every element check: nothing, or one Error on the element with a container context -/
theorem elem_report (c : Prop) [Decidable c] (r : Range) (msg ctx : String) (hint : Option String)
    (hctx : ctx ∈ containerContexts) :
    (if c then [] else [mkDiag .error r msg (some ctx) hint]).map reportOf = (if c then [] else [(.error, r)])
    ∧ ∀ d ∈ (if c then [] else [mkDiag .error r msg (some ctx) hint]), isContainerDiag d = true := by
  split
  · exact ⟨rfl, fun _ hd => nomatch hd⟩
  · refine ⟨rfl, fun d hd => ?_⟩
    rw [List.mem_singleton.mp hd]
    simpa [isContainerDiag, mkDiag] using hctx

theorem array_elem (e : Ty) :
    (checkArrayElement e).map reportOf = (if arrayElemOk (Category.of e.kind) then [] else [(.error, e.sym)])
    ∧ ∀ d ∈ checkArrayElement e, isContainerDiag d = true := by
  unfold checkArrayElement
  split
  · rename_i hk
    rw [hk]
    exact elem_report False e.sym _ "unsupported array" _ (by decide)
  · rename_i hk
    dsimp only
    refine And.imp_left (fun h => h.trans ?_) (elem_report _ e.sym _ "invalid parameter" _ (by decide))
    congr 2
    -- finite: the model's table is the specification's
    obtain ⟨n, k, g, s, f⟩ := e
    cases k with
    | array => exact absurd rfl hk
    | android a => cases a <;> rfl
    | resolved key r => cases r <;> rfl
    | _ => rfl

theorem list_elem (e : Ty) :
    (checkListElement e).map reportOf = (if listElemOk (Category.of e.kind) then [] else [(.error, e.sym)])
    ∧ ∀ d ∈ checkListElement e, isContainerDiag d = true := by
  unfold checkListElement
  dsimp only
  refine And.imp_left (fun h => h.trans ?_) (elem_report _ e.sym _ "invalid element" _ (by decide))
  congr 2
  -- finite: the model's table is the specification's
  obtain ⟨n, k, g, s, f⟩ := e
  cases k with
  | android a => cases a <;> rfl
  | resolved key r => cases r <;> rfl
  | _ => rfl

theorem map_value (e : Ty) :
    (checkMapValue e).map reportOf = (if mapValueOk (Category.of e.kind) then [] else [(.error, e.sym)])
    ∧ ∀ d ∈ checkMapValue e, isContainerDiag d = true := by
  unfold checkMapValue
  dsimp only
  refine And.imp_left (fun h => h.trans ?_) (elem_report _ e.sym _ "invalid map value" _ (by decide))
  congr 2
  obtain ⟨n, k, g, s, f⟩ := e
  cases k with
  | android a => cases a <;> rfl
  | resolved key r => cases r <;> rfl
  | _ => rfl

theorem category_string (k : TypeKind) : Category.of k = .string ↔ k = .string := by
  cases k with
  | android a => cases a <;> simp [Category.of]
  | resolved key r => cases r <;> simp [Category.of]
  | _ => simp [Category.of]

theorem map_key (e : Ty) :
    (checkMapKey e).map reportOf = (if mapKeyOk e then [] else [(.error, e.sym)])
    ∧ ∀ d ∈ checkMapKey e, isContainerDiag d = true := by
  unfold checkMapKey
  refine And.imp_left (fun h => h.trans ?_) (elem_report _ e.sym _ "invalid map key" _ (by decide))
  simp only [mapKeyOk, Bool.and_eq_true, beq_iff_eq, category_string]

theorem container_rule (t : Ty) (ds : List Diag) (h : checkContainer t = .ok ds) :
    ds.map reportOf = containerRule t ∧ ∀ d ∈ ds, isContainerDiag d = true := by
  obtain ⟨n, k, g, s, f⟩ := t
  unfold checkContainer containerRule at *
  simp only [Ty.kind, Ty.gens, Ty.sym] at *
  cases k with
  | array =>
    cases g with
    | nil => cases h
    | cons e es => simp only at h; cases h; exact array_elem e
  | list =>
    match g, h with
    | [], h => simp only at h; cases h; simp [mkDiag, reportOf, isContainerDiag, containerContexts]
    | [e], h => simp only at h; cases h; exact list_elem e
    | _ :: _ :: _, h => simp only at h; cases h
  | map =>
    match g, h with
    | [], h => simp only at h; cases h; simp [mkDiag, reportOf, isContainerDiag, containerContexts]
    | [e], h => simp only at h; cases h
    | [k, v], h =>
      simp only at h; cases h
      constructor
      · simp only [List.map_append, (map_key k).1, (map_value v).1]; rfl
      · exact List.forall_mem_append.mpr ⟨(map_key k).2, (map_value v).2⟩
    | _ :: _ :: _ :: _, h => simp only at h; cases h
  | _ => simp only at h; cases h; simp

theorem checkContainers_eq (ast : AidlFile) (ds : List Diag) (h : checkContainers ast = .ok ds) :
    ds.map reportOf = spec ast ∧ ∀ d ∈ ds, isContainerDiag d = true := by
  rw [checkContainers_eq_mapExcept] at h
  cases hm : mapExcept checkContainer (allTypesWalk ast) with
  | error e =>
    rw [hm] at h
    cases h
  | ok dss =>
    rw [hm] at h
    cases h
    refine mapExcept_ind (P := fun l dss => dss.flatten.map reportOf = l.flatMap containerRule
      ∧ ∀ d ∈ dss.flatten, isContainerDiag d = true) ⟨rfl, fun _ h => nomatch h⟩ (fun t d _ _ ht ih => ?_) hm
    obtain ⟨hr, hc⟩ := container_rule t d ht
    exact ⟨by simp [hr, ih.1], List.flatten_cons ▸ List.forall_mem_append.mpr ⟨hc, ih.2⟩⟩

/-- no diagnostic pushed by another step carries one of the container context messages
    (decidable; evaluated by the harness on every case). `DiagCtx.fresh_C08` proves it from the
    context messages of the syntax-stage diagnostics, hence of every parser output
    (`PipelineTotal.C08_holds_of_parsed`). -/
def Fresh (g : Groups) : Prop :=
  ∀ d ∈ g.syn ++ g.unknown ++ g.imports ++ g.decls ++ g.oneway ++ g.methods, isContainerDiag d = false

instance (g : Groups) : Decidable (Fresh g) := by unfold Fresh; infer_instance

/-- **C08 for the model**: for any hash order and project, the diagnostics of a validated file
    that carry a container context message are, as a multiset of (severity, range), exactly the
    reports of the element rules over all type nodes of the validated tree. -/
theorem holds (ho : HashOrder) (defined : Defined) (fr out : FileResult)
    (h : validateFile ho defined fr = .ok out)
    (fresh : ∀ ast g, fr.ast = some ast → validateGroups ho defined fr.diags ast = .ok g → Fresh g) :
    holdsFile out = true := by
  obtain ⟨hast, rfl⟩ | ⟨ast, g, hast, hg, rfl⟩ := validateFile_eq_ok h
  · simp [holdsFile, hast]
  have V := validated hg
  obtain ⟨hrep, hall⟩ := checkContainers_eq _ _ V.containers_ok
  simp only [holdsFile, List.isPerm_iff, spec, V.ast_eq, allTypesWalk_setUpOneway]
  rw [← spec, ← hrep]
  refine ((sel_group g.all_perm_containers fun d hd => fresh ast g hast hg d hd).trans ?_).map _
  rw [List.filter_eq_self.mpr hall]

end Aidl.Props.C08
