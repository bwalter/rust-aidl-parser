import AidlVerif.Props.LrRel
import AidlVerif.Props.ParseTerm

/-!
C02 — the tree depends only on the token sequence: layout independence, for every pair of texts.

`Rel.addContent_layout_gen`: two texts that lex to the same sequence of (lexer entry, text) pairs give
trees that are equal up to positions and documentation. `lexToks` computes that sequence; the
hypothesis of `layout_independent` is an equation between two evaluations of it (what the driver
evaluates on every pair of layouts of one document). With `addContent_total` both results exist.
Whitespace, line endings and comments are skip entries of the lexer: they never become tokens
(`C02.skip_does_not_reach_parser`); that two layouts of the same lexemes satisfy the hypothesis is
`LexSpec.lexToks_of_lexesTo`.
-/

namespace Aidl.Props.C02Layout
open Aidl Aidl.Lr Aidl.Actions Aidl.Lexer Aidl.Erase Aidl.Props.Rel Aidl.Props.LrInv

theorem lexToks_some (T : Tables) {f : Nat} {i : List Char} {p : Nat} {x : List (Nat × String) × Bool}
    (h : lexToks T f i p = some x) :
    (Lexer.next T.lex (i.length + 1) i p = .eof ∧ x = ([], true))
    ∨ (∃ l, Lexer.next T.lex (i.length + 1) i p = .invalid l ∧ x = ([], false))
    ∨ ∃ t r f' y, f = f' + 1 ∧ Lexer.next T.lex (i.length + 1) i p = .token t r ∧ lexToks T f' r t.stop = some y
        ∧ x = ((t.index, t.text) :: y.1, y.2) := by
  cases f with
  | zero => simp [lexToks] at h
  | succ f' =>
    unfold lexToks at h
    cases hn : Lexer.next T.lex (i.length + 1) i p with
    | eof =>
      rw [hn] at h
      cases h
      exact Or.inl ⟨rfl, rfl⟩
    | invalid l =>
      rw [hn] at h
      cases h
      exact Or.inr (Or.inl ⟨l, rfl, rfl⟩)
    | token t r =>
      rw [hn] at h
      obtain ⟨y, hr, rfl⟩ := Option.map_eq_some_iff.mp h
      exact Or.inr (Or.inr ⟨t, r, f', y, rfl, rfl, hr, rfl⟩)

theorem lexToks_rel (T : Tables) : ∀ (f1 f2 : Nat) (i1 : List Char) (p1 : Nat) (i2 : List Char) (p2 : Nat)
    (x : List (Nat × String) × Bool), lexToks T f1 i1 p1 = some x → lexToks T f2 i2 p2 = some x → LexRel T i1 p1 i2 p2 := by
  intro f1
  induction f1 with
  | zero => intro f2 i1 p1 i2 p2 x h; simp [lexToks] at h
  | succ f1 ih =>
    intro f2 i1 p1 i2 p2 x h1 h2
    -- the answer says which of the three it was, the same for both texts
    rcases lexToks_some T h1 with ⟨hn1, rfl⟩ | ⟨l1, hn1, rfl⟩ | ⟨t1, r1, f1', y1, hf1, hn1, hr1, rfl⟩
    · rcases lexToks_some T h2 with ⟨hn2, _⟩ | ⟨l2, _, hx⟩ | ⟨t2, r2, f2', y2, _, _, _, hx⟩
      · exact LexRel.eof hn1 hn2
      · cases hx
      · cases hx
    · rcases lexToks_some T h2 with ⟨_, hx⟩ | ⟨l2, hn2, _⟩ | ⟨t2, r2, f2', y2, _, _, _, hx⟩
      · cases hx
      · exact LexRel.invalid hn1 hn2
      · cases hx
    · cases hf1
      rcases lexToks_some T h2 with ⟨_, hx⟩ | ⟨l2, _, hx⟩ | ⟨t2, r2, f2', y2, _, hn2, hr2, hx⟩
      · cases hx
      · cases hx
      · simp only [Prod.mk.injEq, List.cons.injEq] at hx
        obtain ⟨⟨⟨hi, ht⟩, hl⟩, he⟩ := hx
        have hy : y2 = y1 := (Prod.ext hl he).symm
        subst hy
        exact LexRel.tok hn1 hn2 hi ht (ih f2' r1 t1.stop r2 t2.stop y2 hr1 hr2)

/-- **Layout independence (C02), for every pair of texts** (tables of this run): if two texts have
    the same token sequence, then — whatever whitespace, line endings and comments separate the
    tokens, and whatever the two line/column lookups — both calls of the model's `add_content` return
    and their trees are equal up to positions and documentation (or both absent). -/
theorem layout_independent (env1 env2 : Env) (id1 id2 text1 text2 : String)
    (hE1 : EnvOk env1 text1.toList) (hE2 : EnvOk env2 text2.toList)
    (x : List (Nat × String) × Bool)
    (h1 : lexToks Driver.Parse.tables (text1.toList.length + 1) text1.toList 0 = some x)
    (h2 : lexToks Driver.Parse.tables (text2.toList.length + 1) text2.toList 0 = some x) :
    ∃ r1 r2, addContentE Driver.Parse.tables env1 id1 text1 = .ok r1
      ∧ addContentE Driver.Parse.tables env2 id2 text2 = .ok r2
      ∧ r1.ast.map erAidl = r2.ast.map erAidl := by
  obtain ⟨r1, hr1⟩ := ParseTerm.addContent_total env1 id1 text1 hE1
  obtain ⟨r2, hr2⟩ := ParseTerm.addContent_total env2 id2 text2 hE2
  exact ⟨r1, r2, hr1, hr2, addContent_layout_gen Driver.Parse.tables env1 env2 id1 id2 text1 text2 r1 r2
    (lexToks_rel _ _ _ _ _ _ _ x h1 h2) hr1 hr2⟩

end Aidl.Props.C02Layout
