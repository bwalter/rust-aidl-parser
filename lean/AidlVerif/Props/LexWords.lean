import AidlVerif.Props.LexIdent

/-!
Reserved words: which words are not identifiers, read off the table. `wordsOf r` is the finite language of a star-free
expression over single-character classes, in the matcher's preference order; on such an expression the backtracking
matcher IS "the first listed word that is a prefix of the input" (`m_words`), so such an entry matches a whole word exactly
when the first of its words that is a prefix of the word is the word itself (`full_iff_first`, `listed`). With a fact the
kernel evaluates on THIS run's table (`wordEntries_ok`: every entry that can begin with a word-start character, other
than IDENT, is such an expression and stands after IDENT) this turns `next_word` into a closed form: a word listed by an
entry is a token of the LAST entry that lists it, a word no entry lists is an IDENT.

The table is NOT checked to list no word after one of its proper prefixes, and does (`do` before `double`, last example):
`full_iff_listed`, plain membership for lists without that pattern, is stated for the record and not used.
-/

namespace Aidl.Props.LexWords
open Aidl.Regex Aidl.Lexer Aidl.Javadoc Aidl.Props.JavadocTotal Aidl.Props.LexerBounds
  Aidl.Props.RegexSound Aidl.Props.JavadocSpec Aidl.Props.SkipEntries Aidl.Props.LexSkip Aidl.Props.LexerFuel Aidl.Props.LexIdent

def strip : List Char → List Char → Option (List Char)
  | [], s => some s
  | _ :: _, [] => none
  | c :: w, d :: s => if c = d then strip w s else none

theorem strip_append : ∀ (x y s : List Char), strip (x ++ y) s = (strip x s).bind (strip y)
  | [], y, s => rfl
  | c :: x, y, [] => rfl
  | c :: x, y, d :: s => by
    simp only [List.cons_append, strip]
    split
    · exact strip_append x y s
    · rfl

theorem strip_eq_some : ∀ (w s s' : List Char), strip w s = some s' ↔ s = w ++ s'
  | [], s, s' => by simp [strip]
  | c :: w, [], s' => by simp [strip]
  | c :: w, d :: s, s' => by
    simp only [strip, List.cons_append, List.cons.injEq]
    split
    · rename_i h; subst h; simp [strip_eq_some w s s']
    · rename_i h
      constructor
      · intro h'; cases h'
      · intro ⟨h', _⟩; exact absurd h'.symm h

theorem strip_self (w : List Char) : strip w w = some [] := (strip_eq_some w w []).mpr (by simp)

/-- `LexerLang.lang` with a further test (the code point is a character's), so that `m_words` can be an equation -/
def wordsOf : Re → Option (List (List Char))
  | .eps => some [[]]
  | .cls rs =>
    match rs with
    | [(a, b)] => if a = b ∧ (Char.ofNat a).toNat = a then some [[Char.ofNat a]] else none
    | _ => none
  | .seq a b =>
    match wordsOf a, wordsOf b with
    | some wa, some wb => some (wa.flatMap fun x => wb.map fun y => x ++ y)
    | _, _ => none
  | .alt a b =>
    match wordsOf a, wordsOf b with
    | some wa, some wb => some (wa ++ wb)
    | _, _ => none
  | .star _ => none

def tryWord (s : List Char) (p : Nat) (k : K) (w : List Char) : Option Nat :=
  match strip w s with
  | some s' => k s' (p + utf8Len w)
  | none => none

theorem tryWord_none {s : List Char} {p : Nat} {k : K} {w : List Char} (h : strip w s = none) : tryWord s p k w = none := by
  unfold tryWord; rw [h]

theorem tryWord_some {s : List Char} {p : Nat} {k : K} {w s' : List Char} (h : strip w s = some s') :
    tryWord s p k w = k s' (p + utf8Len w) := by
  unfold tryWord; rw [h]

theorem findSome?_flatMap {α β γ} (f : α → List β) (g : β → Option γ) : ∀ (l : List α),
    (l.flatMap f).findSome? g = l.findSome? (fun x => (f x).findSome? g)
  | [] => rfl
  | x :: l => by
    rw [List.flatMap_cons, List.findSome?_append, List.findSome?_cons, findSome?_flatMap f g l]
    cases (f x).findSome? g <;> rfl

theorem m_words : ∀ (r : Re) (ws : List (List Char)), wordsOf r = some ws →
    ∀ (f : Nat) (s : List Char) (p : Nat) (k : K), m r f s p k = ws.findSome? (tryWord s p k) := by
  intro r
  induction r with
  | eps =>
    intro ws h f s p k
    simp only [wordsOf, Option.some.injEq] at h
    subst h
    simp [m, tryWord, strip, utf8Len_nil]
  | cls rs =>
    intro ws h f s p k
    unfold wordsOf at h
    split at h
    · rename_i a b
      split at h
      · rename_i hab
        obtain ⟨hab, hval⟩ := hab
        subst hab
        simp only [Option.some.injEq] at h
        subst h
        cases s with
        | nil => simp [m, tryWord, strip]
        | cons d s' =>
          simp only [m, List.findSome?_cons, List.findSome?_nil, tryWord, strip, inCls_chr hval, decide_eq_true_eq]
          by_cases hd : Char.ofNat a = d
          · rw [if_pos hd.symm, if_pos hd]
            simp only
            rw [← hd, utf8Len_cons, utf8Len_nil, Nat.add_zero]
            cases k s' (p + (Char.ofNat a).utf8Size) <;> rfl
          · rw [if_neg (Ne.symm hd), if_neg hd]
      · cases h
    · cases h
  | seq a b iha ihb =>
    intro ws h f s p k
    unfold wordsOf at h
    split at h
    · rename_i wa wb ha hb
      simp only [Option.some.injEq] at h
      subst h
      simp only [m]
      have hk : (fun s' p' => m b f s' p' k) = (fun s' p' => wb.findSome? (tryWord s' p' k)) := by
        funext s' p'; exact ihb wb hb f s' p' k
      rw [hk, iha wa ha f s p _, findSome?_flatMap]
      congr 1
      funext x
      rw [List.findSome?_map]
      cases hx : strip x s with
      | none =>
        have : (tryWord s p k ∘ fun y => x ++ y) = fun _ => none := by
          funext y
          simp only [Function.comp]
          exact tryWord_none (by rw [strip_append, hx]; rfl)
        rw [this, tryWord_none hx]
        exact (List.findSome?_eq_none_iff.mpr fun _ _ => rfl).symm
      | some s' =>
        have : (tryWord s p k ∘ fun y => x ++ y) = tryWord s' (p + utf8Len x) k := by
          funext y
          unfold tryWord
          simp only [Function.comp, strip_append, hx, Option.bind_some, utf8Len_append, Nat.add_assoc]
        rw [this, tryWord_some hx]
    · cases h
  | alt a b iha ihb =>
    intro ws h f s p k
    unfold wordsOf at h
    split at h
    · rename_i wa wb ha hb
      simp only [Option.some.injEq] at h
      subst h
      simp only [m]
      rw [iha wa ha f s p k, ihb wb hb f s p k, List.findSome?_append]
      cases wa.findSome? (tryWord s p k) <;> rfl
    · cases h
  | star a _ => intro ws h; cases h

def firstWord (ws : List (List Char)) (s : List Char) : Option (List Char) := ws.find? fun w => (strip w s).isSome

theorem findSome_tryWord (s : List Char) (p : Nat) : ∀ (ws : List (List Char)),
    ws.findSome? (tryWord s p (fun _ p' => some p')) = (ws.find? fun w => (strip w s).isSome).map (fun w => p + utf8Len w)
  | [] => rfl
  | w :: ws => by
    rw [List.findSome?_cons, List.find?_cons]
    cases hw : strip w s with
    | none => rw [tryWord_none hw]; simp only [Option.isSome_none]; exact findSome_tryWord s p ws
    | some s' => rw [tryWord_some hw]; simp

theorem matchAt_words (r : Re) (ws : List (List Char)) (h : wordsOf r = some ws) (f : Nat) (s : List Char) (p : Nat) :
    matchAt r f s p = (firstWord ws s).map (fun w => p + utf8Len w) := by
  unfold matchAt
  rw [m_words r ws h]
  exact findSome_tryWord s p ws

theorem full_iff_first (r : Re) (ws : List (List Char)) (h : wordsOf r = some ws) (f : Nat) (w0 : List Char) :
    matchAt r f w0 0 = some (utf8Len w0) ↔ firstWord ws w0 = some w0 := by
  rw [matchAt_words r ws h]
  constructor
  · intro hm
    obtain ⟨w, hf, hlen⟩ := Option.map_eq_some_iff.mp hm
    -- the first listed prefix of `w0` is as long as `w0`
    obtain ⟨s', hs'⟩ := Option.isSome_iff_exists.mp (List.find?_some (p := fun w => (strip w w0).isSome) hf)
    have hw0 := (strip_eq_some w w0 s').mp hs'
    have hnil : s' = [] := utf8Len_eq_zero.mp (by
      rw [hw0, utf8Len_append] at hlen
      omega)
    rw [hf, hw0, hnil, List.append_nil]
  · intro hm
    rw [hm]
    simp

def ordOk : List (List Char) → Bool
  | [] => true
  | u :: vs => vs.all (fun v => !((strip u v).isSome && u != v)) && ordOk vs

theorem firstWord_self : ∀ (ws : List (List Char)) (w0 : List Char), ordOk ws = true → w0 ∈ ws → firstWord ws w0 = some w0
  | [], _, _, h => by cases h
  | u :: vs, w0, hord, hmem => by
    simp only [ordOk, Bool.and_eq_true, List.all_eq_true] at hord
    unfold firstWord
    rw [List.find?_cons]
    cases hu : (strip u w0).isSome with
    | true =>
      simp only
      rcases List.mem_cons.mp hmem with h | h
      · rw [h]
      · have := hord.1 w0 h
        rw [hu] at this
        simp only [Bool.true_and, Bool.not_eq_true', bne_eq_false_iff_eq] at this
        rw [this]
    | false =>
      simp only
      rcases List.mem_cons.mp hmem with h | h
      · subst h; rw [strip_self] at hu; cases hu
      · exact firstWord_self vs w0 hord.2 h

theorem full_iff_listed (r : Re) (ws : List (List Char)) (h : wordsOf r = some ws) (hord : ordOk ws = true) (f : Nat) (w0 : List Char) :
    matchAt r f w0 0 = some (utf8Len w0) ↔ w0 ∈ ws := by
  rw [full_iff_first r ws h]
  exact ⟨fun hm => List.mem_of_find?_eq_some hm, fun hm => firstWord_self ws w0 hord hm⟩

theorem identIdx_full (c : Char) (t : List Char) (hc : inCls identStartCls c = true) (ht : ∀ d ∈ t, isIdentPart d = true) :
    fullOn identIdx (c :: t) = true :=
  fullOn_start_run identIdx_entry.2 c t hc ht

def listed (i : Nat) (w : List Char) : Bool :=
  i != identIdx && !disjointCls identStartCls (firstCls Gen.lexTable[i]!.1) &&
    match wordsOf Gen.lexTable[i]!.1 with
    | some ws => firstWord ws w == some w
    | none => false

def wordEntries : Bool :=
  (List.range Gen.lexTable.size).all fun i =>
    i == identIdx || disjointCls identStartCls (firstCls Gen.lexTable[i]!.1) ||
      (decide (identIdx < i) && (wordsOf Gen.lexTable[i]!.1).isSome)

theorem wordEntries_ok : wordEntries = true := by decide +kernel

theorem not_full_of_disjoint (i : Nat) (c : Char) (t : List Char) (hc : inCls identStartCls c = true)
    (hdis : disjointCls identStartCls (firstCls Gen.lexTable[i]!.1) = true) (f : Nat) :
    matchAt Gen.lexTable[i]!.1 f (c :: t) 0 ≠ some (utf8Len (c :: t)) :=
  fun hfull => List.cons_ne_nil c t (utf8Len_eq_zero.mp ((emptyAt_of_disjoint hdis hc f t 0).eq hfull))

theorem fullOn_iff_listed (i : Nat) (hi : i < Gen.lexTable.size) (hne : i ≠ identIdx) (c : Char) (t : List Char)
    (hc : inCls identStartCls c = true) : fullOn i (c :: t) = true ↔ listed i (c :: t) = true := by
  have hall := List.all_eq_true.mp wordEntries_ok i (List.mem_range.mpr hi)
  simp only [Bool.or_eq_true, beq_iff_eq, Bool.and_eq_true, decide_eq_true_eq] at hall
  unfold listed fullOn
  rcases hall with (h | h) | ⟨_, h⟩
  · exact absurd h hne
  · -- it cannot begin with a word-start character
    rw [h]
    simp only [Bool.not_true, Bool.and_false, Bool.false_and, Bool.false_eq_true, iff_false]
    intro hfull
    exact not_full_of_disjoint i c t hc h _ (eq_of_beq hfull)
  · cases hw : wordsOf Gen.lexTable[i]!.1 with
    | none => rw [hw] at h; cases h
    | some ws =>
      have hiff := full_iff_first _ ws hw ((c :: t).length + 1) (c :: t)
      simp only [beq_iff_eq]
      rw [hiff]
      simp only [Bool.and_eq_true, bne_iff_ne, ne_eq, Bool.not_eq_true', beq_iff_eq]
      constructor
      · intro hm
        refine ⟨⟨hne, Bool.eq_false_iff.mpr fun hdis => ?_⟩, hm⟩
        exact not_full_of_disjoint i c t hc hdis _ (hiff.mpr hm)
      · intro ⟨_, hm⟩; exact hm

theorem listed_after_ident (i : Nat) (hi : i < Gen.lexTable.size) (w : List Char) (h : listed i w = true) : identIdx < i := by
  have hall := List.all_eq_true.mp wordEntries_ok i (List.mem_range.mpr hi)
  simp only [Bool.or_eq_true, beq_iff_eq, Bool.and_eq_true, decide_eq_true_eq] at hall
  unfold listed at h
  simp only [Bool.and_eq_true, bne_iff_ne, ne_eq, Bool.not_eq_true'] at h
  rcases hall with (h' | h') | ⟨h', _⟩
  · exact absurd h' h.1.1
  · rw [h.1.2] at h'; cases h'
  · exact h'

theorem next_reserved (fuel : Nat) (c : Char) (t rest : List Char) (p i : Nat)
    (hc : inCls identStartCls c = true) (ht : ∀ d ∈ t, isIdentPart d = true)
    (hout : ∀ d u, rest = d :: u → isIdentPart d = false) (hf : (c :: t ++ rest).length ≤ fuel)
    (hi : i < Gen.lexTable.size) (hl : listed i (c :: t) = true)
    (hlast : ∀ i', i' < Gen.lexTable.size → listed i' (c :: t) = true → i' ≤ i) :
    next Gen.lexTable (fuel + 1) (c :: t ++ rest) p
      = .token { start := p, index := i, text := String.ofList (c :: t), stop := p + utf8Len (c :: t) } rest := by
  obtain ⟨j, hj, hjf, hmax, hnext⟩ := next_word fuel c t rest p hc ht hout hf
  have hgt := listed_after_ident i hi _ hl
  have hine : i ≠ identIdx := by omega
  have hij : i ≤ j := hmax i hi ((fullOn_iff_listed i hi hine c t hc).mpr hl)
  have hjne : j ≠ identIdx := by omega
  have hji : j ≤ i := hlast j hj ((fullOn_iff_listed j hj hjne c t hc).mp hjf)
  have : j = i := by omega
  rw [hnext, this]

theorem next_identifier (fuel : Nat) (c : Char) (t rest : List Char) (p : Nat)
    (hc : inCls identStartCls c = true) (ht : ∀ d ∈ t, isIdentPart d = true)
    (hout : ∀ d u, rest = d :: u → isIdentPart d = false) (hf : (c :: t ++ rest).length ≤ fuel)
    (hnone : ∀ i, i < Gen.lexTable.size → listed i (c :: t) = false) :
    next Gen.lexTable (fuel + 1) (c :: t ++ rest) p
      = .token { start := p, index := identIdx, text := String.ofList (c :: t), stop := p + utf8Len (c :: t) } rest := by
  obtain ⟨j, hj, hjf, _, hnext⟩ := next_word fuel c t rest p hc ht hout hf
  by_cases hne : j = identIdx
  · rw [hnext, hne]
  · have := (fullOn_iff_listed j hj hne c t hc).mp hjf
    rw [hnone j hj] at this
    cases this

def reservedWords : List (String × Nat) :=
  (List.range Gen.lexTable.size).flatMap fun i =>
    if i != identIdx && !disjointCls identStartCls (firstCls Gen.lexTable[i]!.1) then
      match wordsOf Gen.lexTable[i]!.1 with
      | some ws => (ws.filter fun w => firstWord ws w == some w).map fun w => (String.ofList w, i)
      | none => []
    else []

/-- what three of the examples below state, in ONE kernel evaluation of `reservedWords` -/
theorem reservedWords_facts :
    ("interface", Gen.lexTable.toList.idxOf (Re.seqs ("interface".toList.map Re.chr), false)) ∈ reservedWords
    ∧ 20 ≤ reservedWords.length
    ∧ (reservedWords.filter (·.1 == "double")).length = 1 ∧ (reservedWords.filter (·.1 == "do")).length = 1 := by
  decide +kernel

example : ("interface", Gen.lexTable.toList.idxOf (Re.seqs ("interface".toList.map Re.chr), false)) ∈ reservedWords := reservedWords_facts.1
example : listed (Gen.lexTable.toList.idxOf (Re.seqs ("oneway".toList.map Re.chr), false)) "oneway".toList = true := by decide +kernel
example : (List.range Gen.lexTable.size).all (fun i => !listed i "oneways".toList) = true := by decide +kernel
example : 20 ≤ reservedWords.length := reservedWords_facts.2.1
-- `double` stands after its proper prefix `do` in the list of reserved words, so that entry never matches it entirely;
-- the entry of the primitive types, which stands later in the table, does
example : (reservedWords.filter (·.1 == "double")).length = 1 ∧ (reservedWords.filter (·.1 == "do")).length = 1 := reservedWords_facts.2.2

end Aidl.Props.LexWords
