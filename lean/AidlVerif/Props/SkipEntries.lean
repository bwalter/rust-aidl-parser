import AidlVerif.Props.RegexEval
import AidlVerif.Gen.LexTable

/-!
Single entries of the regenerated table, exactly. The three skip entries of `aidl.lalrpop`:
* `wsRe` (`\s*`): the maximal run of white-space characters;
* `lineRe` (`//[^\n\r]*[\n\r]*`): `//`, the rest of the line, and the line breaks (LF / CR) after it;
* `blockRe` (`/\*[^*]*\*+(?:[^/*][^*]*\*+)*/`): `/*` up to and including the FIRST `*/`, and nothing when there is none.

`*_entry`: each is, verbatim, an entry of THIS run's lexer table (kernel evaluation), so a change of a pattern in
`aidl.lalrpop` breaks these obligations. The first two are evaluated exactly (`m_star_cls`, `tryFrom_first`); the block
comment goes through the regular language: soundness and completeness of the matcher plus a characterisation of the
language by a two-state scan (`firstClose`). `identRe`, `strRe`, `intRe`, `annRe` (IDENT, QUOTED_STRING, INTEGER,
ANNOTATION): pinned and evaluated the same way.
-/

namespace Aidl.Props.SkipEntries
open Aidl.Regex Aidl.Javadoc Aidl.Props.JavadocTotal
  Aidl.Props.RegexSound Aidl.Props.JavadocSpec

theorem entry_at_idxOf {table : Lexer.LexTable} {e : Re × Bool} (h : e ∈ table.toList) :
    table.toList.idxOf e < table.size ∧ table[table.toList.idxOf e]! = e := by
  have hlt : table.toList.idxOf e < table.size := by simpa using List.idxOf_lt_length_of_mem h
  refine ⟨hlt, ?_⟩
  rw [getElem!_pos table _ hlt, ← Array.getElem_toList]
  exact List.getElem_idxOf _

def wsCls : List (Nat × Nat) :=
  [(9, 13), (32, 32), (133, 133), (160, 160), (5760, 5760), (8192, 8202), (8232, 8233), (8239, 8239), (8287, 8287), (12288, 12288)]
def wsRe : Re := .star (.cls wsCls)
/-- `\s` as the white-space entry of the table spells it out -/
def isWsChar (c : Char) : Bool := inCls wsCls c

theorem ws_entry : (wsRe, true) ∈ Gen.lexTable.toList := by decide +kernel

theorem matchAt_ws (f : Nat) (s : List Char) (p : Nat) (hf : s.length ≤ f) :
    matchAt wsRe f s p = some (p + utf8Len (s.takeWhile isWsChar)) := by
  unfold matchAt wsRe
  rw [m_star_cls _ f _ s p hf]
  exact tryFrom_first _ _ _ p _ rfl

def notEolCls : List (Nat × Nat) := [(0, 9), (11, 12), (14, 1114111)]
def eolCls : List (Nat × Nat) := [(10, 10), (13, 13)]
def lineRe : Re := Re.seqs [.cls [(47, 47)], .cls [(47, 47)], .star (.cls notEolCls), .star (.cls eolCls)]
def isNotEol (c : Char) : Bool := inCls notEolCls c
def isEol (c : Char) : Bool := inCls eolCls c

theorem line_entry : (lineRe, true) ∈ Gen.lexTable.toList := by decide +kernel

theorem matchAt_line (f : Nat) (t : List Char) (p : Nat) (hf : t.length ≤ f) :
    matchAt lineRe f ('/' :: '/' :: t) p
      = some (p + 2 + utf8Len (t.takeWhile isNotEol) + utf8Len ((t.dropWhile isNotEol).takeWhile isEol)) := by
  have e1 : inCls [(47, 47)] '/' = true := by decide
  unfold matchAt lineRe
  simp only [Re.seqs]
  rw [m_seq, m_cls_cons, if_pos e1, m_seq, m_cls_cons, if_pos e1, m_seq, m_star_cls _ f _ t _ hf]
  -- the second star accepts wherever it stands, so the first takes its longest run
  apply tryFrom_first
  rw [m_star_cls _ f _ _ _ (Nat.le_trans (List.dropWhile_sublist _).length_le hf)]
  apply tryFrom_first
  rw [slash_size]
  rfl

def notStarCls : List (Nat × Nat) := [(0, 41), (43, 1114111)]
def starCls : List (Nat × Nat) := [(42, 42)]
def notSlashStarCls : List (Nat × Nat) := [(0, 41), (43, 46), (48, 1114111)]
def slashCls : List (Nat × Nat) := [(47, 47)]

/-- `[^/*][^*]*\*+`: one more stretch of a comment after a run of stars -/
def loopRe : Re := Re.seqs [.cls notSlashStarCls, .star (.cls notStarCls), Re.plus (.cls starCls)]
/-- what follows `/*` -/
def tailRe : Re := .seq (.star (.cls notStarCls)) (.seq (Re.plus (.cls starCls)) (.seq (.star loopRe) (.cls slashCls)))
def blockRe : Re := Re.seqs [.cls slashCls, .cls starCls, .star (.cls notStarCls), Re.plus (.cls starCls), .star loopRe, .cls slashCls]

theorem block_entry : (blockRe, true) ∈ Gen.lexTable.toList := by decide +kernel

/-- the scan for the closing `*/`: `true` = the previous character was a `*` -/
def firstClose : Bool → List Char → Nat → Option Nat
  | _, [], _ => none
  | st, c :: cs, i =>
    if st && c = '/' then some (i + 1)
    else if c = '*' then firstClose true cs (i + 1)
    else firstClose false cs (i + 1)

theorem inCls_slash (c : Char) : inCls slashCls c = true ↔ c = '/' := by
  rw [slashCls, inCls_chr (show '/'.toNat = 47 from rfl), decide_eq_true_iff]

theorem inCls_star (c : Char) : inCls starCls c = true ↔ c = '*' := by
  rw [starCls, inCls_chr (show '*'.toNat = 42 from rfl), decide_eq_true_iff]

theorem inCls_notStar (c : Char) : inCls notStarCls c = true ↔ c ≠ '*' := by
  have hv := valid_lt c
  rw [Ne, ← Char.toNat_inj]
  simp only [inCls, notStarCls, List.any_cons, List.any_nil, Bool.or_false, Bool.or_eq_true, Bool.and_eq_true, decide_eq_true_eq]
  show _ ↔ ¬ c.toNat = 42
  omega

theorem inCls_notSlashStar (c : Char) : inCls notSlashStarCls c = true ↔ (c ≠ '*' ∧ c ≠ '/') := by
  have hv := valid_lt c
  rw [Ne, Ne, ← Char.toNat_inj, ← Char.toNat_inj]
  simp only [inCls, notSlashStarCls, List.any_cons, List.any_nil, Bool.or_false, Bool.or_eq_true, Bool.and_eq_true, decide_eq_true_eq]
  show _ ↔ ¬ c.toNat = 42 ∧ ¬ c.toNat = 47
  omega

theorem fc_notStars (a y : List Char) (i : Nat) (ha : ∀ c ∈ a, c ≠ '*') :
    firstClose false (a ++ y) i = firstClose false y (i + a.length) := by
  induction a generalizing i with
  | nil => rfl
  | cons c t ih =>
    rw [List.cons_append, firstClose, if_neg (by simp), if_neg (ha c (by simp)), ih (i + 1) (fun d hd => ha d (by simp [hd]))]
    simp only [List.length_cons]
    congr 1
    omega

theorem fc_stars (t y : List Char) (i : Nat) (ht : ∀ c ∈ t, c = '*') (st : Bool) :
    firstClose st ('*' :: t ++ y) i = firstClose true y (i + (t.length + 1)) := by
  rw [List.cons_append, firstClose, if_neg (by cases st <;> decide), if_pos rfl]
  induction t generalizing st i with
  | nil => rfl
  | cons c t ih =>
    rw [ht c (by simp), List.cons_append, firstClose, if_neg (by decide), if_pos rfl,
      ih (i + 1) (fun d hd => ht d (by simp [hd])) true]
    simp only [List.length_cons]
    congr 1
    omega

theorem star_cls_chars (rs : List (Nat × Nat)) (w : List Char) (h : Matches (.star (.cls rs)) w) : ∀ c ∈ w, inCls rs c = true :=
  Matches.all_chars (fun c => inCls rs c = true) h (by simp [clsAll])

theorem plus_stars (w : List Char) (h : Matches (Re.plus (.cls starCls)) w) : ∃ t, w = '*' :: t ∧ ∀ c ∈ t, c = '*' := by
  obtain ⟨u, v, rfl, hu, hv⟩ := h.seq_inv
  obtain ⟨c, rfl, hc⟩ := hu.cls_inv
  rw [(inCls_star c).mp hc]
  exact ⟨v, rfl, fun d hd => (inCls_star d).mp (star_cls_chars _ _ hv d hd)⟩

theorem fc_loop_iter (w y : List Char) (i : Nat) (h : Matches loopRe w) :
    firstClose true (w ++ y) i = firstClose true y (i + w.length) := by
  obtain ⟨u, v, rfl, hu, hv⟩ := h.seq_inv
  obtain ⟨b, rfl, hb⟩ := hu.cls_inv
  obtain ⟨a, s, rfl, ha, hs⟩ := hv.seq_inv
  obtain ⟨hb1, hb2⟩ := (inCls_notSlashStar b).mp hb
  have ha' : ∀ c ∈ a, c ≠ '*' := fun c hc => (inCls_notStar c).mp (star_cls_chars _ _ ha c hc)
  obtain ⟨t, rfl, ht⟩ := plus_stars s hs
  have e : [b] ++ (a ++ '*' :: t) ++ y = b :: (a ++ ('*' :: t ++ y)) := by simp
  rw [e, firstClose, if_neg (by simp [hb2]), if_neg hb1, fc_notStars a _ _ ha', fc_stars t y _ ht false]
  simp only [List.length_append, List.length_cons, List.length_nil]
  congr 1
  omega

theorem fc_loop (w y : List Char) (i : Nat) (h : Matches (.star loopRe) w) :
    firstClose true (w ++ y) i = firstClose true y (i + w.length) := by
  generalize hr : Re.star loopRe = r at h
  induction h generalizing i with
  | starNil a => simp
  | starCons a u v hu _ _ ihv =>
    cases hr
    rw [List.append_assoc, fc_loop_iter u (v ++ y) i hu, ihv _ rfl]
    simp only [List.length_append]; congr 1; omega
  | _ => cases hr

theorem tail_closes_append (u y : List Char) (i : Nat) (h : Matches tailRe u) :
    firstClose false (u ++ y) i = some (i + u.length) := by
  obtain ⟨a, r1, rfl, ha, h1⟩ := h.seq_inv
  obtain ⟨s, r2, rfl, hs, h2⟩ := h1.seq_inv
  obtain ⟨l, e, rfl, hl, he⟩ := h2.seq_inv
  obtain ⟨c, rfl, hc⟩ := he.cls_inv
  have hc' : c = '/' := (inCls_slash c).mp hc
  subst hc'
  have ha' : ∀ c ∈ a, c ≠ '*' := fun c hc => (inCls_notStar c).mp (star_cls_chars _ _ ha c hc)
  obtain ⟨t, rfl, ht⟩ := plus_stars s hs
  have e : (a ++ ('*' :: t ++ (l ++ ['/']))) ++ y = a ++ ('*' :: t ++ (l ++ ('/' :: y))) := by simp
  rw [e, fc_notStars a _ i ha', fc_stars t _ _ ht false, fc_loop l _ _ hl]
  simp only [firstClose, Bool.true_and, decide_true, if_true, List.length_append, List.length_cons, List.length_nil]
  congr 1
  omega

theorem tail_closes (u : List Char) (h : Matches tailRe u) : firstClose false u 0 = some u.length := by
  have := tail_closes_append u [] 0 h
  rwa [List.append_nil, Nat.zero_add] at this

/-- what remains to be read when the previous character was a star: more stars, stretches, the slash -/
def afterStarRe : Re := .seq (.star (.cls starCls)) (.seq (.star loopRe) (.cls slashCls))

theorem Matches.star_cons_cls (rs : List (Nat × Nat)) (c : Char) (w : List Char) (hc : inCls rs c = true)
    (h : Matches (.star (.cls rs)) w) : Matches (.star (.cls rs)) (c :: w) :=
  .starCons _ [c] w (.cls rs c hc) h

theorem closes_words : ∀ (u : List Char) (i : Nat),
    (firstClose false u i = some (i + u.length) → Matches tailRe u)
    ∧ (firstClose true u i = some (i + u.length) → Matches afterStarRe u)
  | [], i => by
    constructor <;> (intro h; simp [firstClose] at h)
  | c :: u, i => by
    obtain ⟨ihN, ihT⟩ := closes_words u (i + 1)
    have hlen : i + (c :: u).length = (i + 1) + u.length := by
      simp only [List.length_cons]
      omega
    constructor
    · intro h
      rw [firstClose, hlen] at h
      simp only [Bool.false_and, Bool.false_eq_true, if_false] at h
      by_cases hc : c = '*'
      · -- a star: the run of non-stars is empty, the run of stars begins here
        rw [if_pos hc] at h
        obtain ⟨s, r, rfl, hs, hr⟩ := (ihT h).seq_inv
        exact .seq' (.starNil _) (.seq' (.seq' (.cls _ c ((inCls_star c).mpr hc)) hs rfl) hr rfl) rfl
      · rw [if_neg hc] at h
        obtain ⟨a, r, rfl, ha, hr⟩ := (ihN h).seq_inv
        exact .seq' (Matches.star_cons_cls _ c a ((inCls_notStar c).mpr hc) ha) hr rfl
    · intro h
      rw [firstClose, hlen] at h
      by_cases hs : c = '/'
      · subst hs
        simp only [Bool.true_and, decide_true, if_true, Option.some.injEq] at h
        have hu : u = [] := List.length_eq_zero_iff.mp (by omega)
        subst hu
        exact .seq' (.starNil _) (.seq' (.starNil _) (.cls _ '/' (by decide)) rfl) rfl
      · have h1 : ¬ ((true && decide (c = '/')) = true) := by simp [hs]
        rw [if_neg (by simpa using h1)] at h
        by_cases hc : c = '*'
        · rw [if_pos hc] at h
          obtain ⟨s, r, rfl, hs', hr⟩ := (ihT h).seq_inv
          exact .seq' (Matches.star_cons_cls _ c s ((inCls_star c).mpr hc) hs') hr rfl
        · -- neither star nor slash: a new stretch begins
          rw [if_neg hc] at h
          obtain ⟨a, r1, rfl, ha, h1'⟩ := (ihN h).seq_inv
          obtain ⟨st, r2, rfl, hst, h2⟩ := h1'.seq_inv
          obtain ⟨l, e, rfl, hl, he⟩ := h2.seq_inv
          have hiter : Matches loopRe (c :: (a ++ st)) :=
            .seq' (.cls _ c ((inCls_notSlashStar c).mpr ⟨hc, hs⟩)) (.seq' ha hst rfl) rfl
          exact .seq' (.starNil _) (.seq' (.starCons _ _ l hiter hl) he (by simp)) rfl

theorem matches_block {w : List Char} : Matches blockRe w ↔ ∃ t, w = '/' :: '*' :: t ∧ Matches tailRe t := by
  constructor
  · intro h
    obtain ⟨a, r, rfl, ha, hr⟩ := Matches.seq_inv (a := .cls slashCls) h
    obtain ⟨b, t, rfl, hb, ht⟩ := hr.seq_inv
    obtain ⟨ca, rfl, hca⟩ := ha.cls_inv
    obtain ⟨cb, rfl, hcb⟩ := hb.cls_inv
    rw [(inCls_slash ca).mp hca, (inCls_star cb).mp hcb]
    exact ⟨t, rfl, ht⟩
  · rintro ⟨t, rfl, ht⟩
    exact .seq' (.cls _ '/' (by decide)) (.seq' (.cls _ '*' (by decide)) ht rfl) rfl

/-- what the matcher finds behind `/*` ends at the first `*/` -/
theorem matchAt_block_some {f : Nat} {x : List Char} {p e : Nat} (h : matchAt blockRe f ('/' :: '*' :: x) p = some e) :
    ∃ t s', x = t ++ s' ∧ firstClose false x 0 = some t.length ∧ e = p + utf8Len ('/' :: '*' :: t) := by
  obtain ⟨w, s', hs, hmw, he⟩ := matchAt_sound blockRe f _ p e h
  obtain ⟨t, rfl, ht⟩ := matches_block.mp hmw
  have htail : x = t ++ s' := by simpa using hs
  exact ⟨t, s', htail, by simpa [htail] using tail_closes_append t s' 0 ht, he⟩

theorem matchAt_block (f : Nat) (u rest : List Char) (p : Nat) (hclose : firstClose false u 0 = some u.length)
    (hf : ('/' :: '*' :: (u ++ rest)).length ≤ f) :
    matchAt blockRe f ('/' :: '*' :: (u ++ rest)) p = some (p + utf8Len ('/' :: '*' :: u)) := by
  -- the comment is a word of the language, so the matcher finds something; what it finds closes where `u` does
  have ht := (closes_words u 0).1 (by simpa using hclose)
  obtain ⟨e, he⟩ : ∃ e, matchAt blockRe f ('/' :: '*' :: (u ++ rest)) p = some e :=
    matchAt_complete blockRe ('/' :: '*' :: u) rest (matches_block.mpr ⟨u, rfl, ht⟩) f p (by
      simp only [List.length_cons, List.length_append] at hf ⊢; omega)
  obtain ⟨t, s', htail, hc, rfl⟩ := matchAt_block_some he
  rw [tail_closes_append u rest 0 ht] at hc
  rw [he, List.append_inj_left htail (by simpa using hc)]

theorem matchAt_block_open (f : Nat) (u : List Char) (p : Nat) (hopen : ∀ k, firstClose false u 0 ≠ some k) :
    matchAt blockRe f ('/' :: '*' :: u) p = none := by
  cases h : matchAt blockRe f ('/' :: '*' :: u) p with
  | none => rfl
  | some e =>
    obtain ⟨_, _, _, hc, _⟩ := matchAt_block_some h
    exact absurd hc (hopen _)

/-- the first `*/` of three candidates -/
example : firstClose false "a * / **/ x */".toList 0 = some 9 := by decide +kernel

theorem matchAt_start_run (st part : List (Nat × Nat)) (f : Nat) (c : Char) (t : List Char) (p : Nat) (hf : t.length ≤ f) :
    matchAt (.seq (.cls st) (.star (.cls part))) f (c :: t) p
      = if inCls st c then some (p + c.utf8Size + utf8Len (t.takeWhile (inCls part))) else none := by
  unfold matchAt
  rw [m_seq, m_cls_cons]
  split
  · rw [m_star_cls _ f _ t _ hf]
    exact tryFrom_first _ _ _ _ _ rfl
  · rfl

def identStartCls : List (Nat × Nat) := [(65, 90), (95, 95), (97, 122)]
def identPartCls : List (Nat × Nat) := [(48, 57), (65, 90), (95, 95), (97, 122)]
def identRe : Re := Re.seqs [.cls identStartCls, .star (.cls identPartCls)]
def isIdentPart (c : Char) : Bool := inCls identPartCls c

theorem ident_entry : (identRe, false) ∈ Gen.lexTable.toList := by decide +kernel

theorem matchAt_ident (f : Nat) (c : Char) (t : List Char) (p : Nat) (hf : t.length ≤ f) :
    matchAt identRe f (c :: t) p
      = if inCls identStartCls c then some (p + c.utf8Size + utf8Len (t.takeWhile isIdentPart)) else none :=
  matchAt_start_run identStartCls identPartCls f c t p hf

def strBodyCls : List (Nat × Nat) := [(0, 9), (11, 12), (14, 33), (35, 1114111)]
def quoteCls : List (Nat × Nat) := [(34, 34)]
def strRe : Re := Re.seqs [.cls quoteCls, .star (.cls strBodyCls), .cls quoteCls]
def isStrBody (c : Char) : Bool := inCls strBodyCls c

theorem str_entry : (strRe, false) ∈ Gen.lexTable.toList := by decide +kernel

theorem matchAt_str (f : Nat) (t : List Char) (p : Nat) (hf : t.length ≤ f) :
    matchAt strRe f ('"' :: t) p
      = match t.dropWhile isStrBody with
        | d :: _ => if d = '"' then some (p + 1 + utf8Len (t.takeWhile isStrBody) + 1) else none
        | [] => none := by
  unfold matchAt strRe
  simp only [Re.seqs]
  rw [m_seq, m_cls_cons, if_pos (by decide)]
  exact m_star_then_chr strBodyCls '"' 34 rfl (by decide) f t _ hf

def digitCls : List (Nat × Nat) := [(48, 57)]
def intRe : Re := Re.plus (.cls digitCls)
def isDigit (c : Char) : Bool := inCls digitCls c

theorem int_entry : (intRe, false) ∈ Gen.lexTable.toList := by decide +kernel

theorem matchAt_int (f : Nat) (c : Char) (t : List Char) (p : Nat) (hf : t.length ≤ f) :
    matchAt intRe f (c :: t) p
      = if inCls digitCls c then some (p + c.utf8Size + utf8Len (t.takeWhile isDigit)) else none :=
  matchAt_start_run digitCls digitCls f c t p hf

def annRe : Re := Re.seqs [.cls [(64, 64)], .cls identStartCls, .star (.cls identPartCls)]

theorem ann_entry : (annRe, false) ∈ Gen.lexTable.toList := by decide +kernel

theorem matchAt_ann (f : Nat) (c : Char) (t : List Char) (p : Nat) (hf : t.length ≤ f) :
    matchAt annRe f ('@' :: c :: t) p
      = if inCls identStartCls c then some (p + 1 + c.utf8Size + utf8Len (t.takeWhile isIdentPart)) else none := by
  have e1 : inCls [(64, 64)] '@' = true := by decide
  have hsz : ('@' : Char).utf8Size = 1 := by decide
  unfold matchAt annRe
  simp only [Re.seqs]
  rw [m_seq, m_cls_cons, if_pos e1, hsz]
  exact matchAt_start_run identStartCls identPartCls f c t (p + 1) hf

end Aidl.Props.SkipEntries
