import AidlVerif.Props.LrCert

/-!
# Termination certificate for the LR driver

The translator computes state weights `w` and top-of-stack ranks `r`, and re-expresses the
transition relation and the productions as decision trees (fast to evaluate in the kernel).
NOTHING of it is trusted: `Pot.ok` is an executable check, evaluated by the kernel on the tables of
this run, that

* `next` contains every certified transition (`nextOK`), `info` / `prodsOf` describe the productions
  of the table (`infoOK`);
* every reduction `A → X₁…X_k` decreases the potential `Σ w(stack) + r(top)` by at least one,
  whatever state `q` lies below the right-hand side (checked from below: for every certified
  transition `q --A--> g` and every production of `A`, the path from `q` over `X₁…X_k` is followed
  to the state `t` in which the reduction happens, with the weight of the states entered);
* no EOF action is a shift, and the constants fit the model's step bound `parseFuel` (64 steps per
  character). `w ≤ wMax` and `r ≤ rMax` hold by construction (`wOf`, `rOf` clamp).
-/

namespace Aidl.Lr

structure Pot where
  w : Nat → Nat
  r : Nat → Nat
  wMax : Nat
  rMax : Nat
  next : Nat → List (Nat × Nat)                    -- state ↦ outgoing transitions (symbol id, target)
  info : Nat → Option (List Nat × Nat × Bool)      -- production ↦ (rhs ids, non-terminal, accept)
  prodsOf : Nat → List Nat                         -- non-terminal index ↦ its productions

namespace Pot
variable (T : Tables) (C : Cert) (P : Pot)

def wOf (s : Nat) : Nat := min (P.w s) P.wMax
def rOf (s : Nat) : Nat := min (P.r s) P.rMax

def wSum (states : List Nat) : Nat := (states.map P.wOf).sum

/-- the potential of a state stack (top first) -/
def phi (states : List Nat) : Nat := P.wSum states + P.rOf (states.headD 0)

/-- follow transitions from `q` over the symbols `xs`: the state reached and the weight of the
    states entered -/
def fwd (q : Nat) : List Nat → Nat → Option (Nat × Nat)
  | [], c => some (q, c)
  | x :: xs, c =>
    match (P.next q).lookup x with
    | none => none
    | some s => fwd s xs (c + P.wOf s)

/-- for the certified transition `q --A--> g` (`e = (symbol id, g)`): every production `A → X₁…X_k`
    whose right-hand side can lie on the stack above `q` decreases the potential when reduced -/
def edgePotOK (q : Nat) (e : Nat × Nat) : Bool :=
  if e.1 < T.ncols then true else
  (P.prodsOf (e.1 - T.ncols)).all fun p =>
    match P.info p with
    | none => false
    | some (ids, nt, accept) =>
      accept ||
        match fwd P q ids 0 with
        | none => true
        | some (t, c) =>
          match (P.next q).lookup (T.ncols + nt) with
          | none => false
          | some g => decide (1 + P.wOf g + P.rOf g ≤ c + P.rOf t)

def edgesPotOK : Bool :=
  C.succ.toList.zipIdx.all fun rq => rq.1.all fun e => edgePotOK T P rq.2 e

def nextOK : Bool :=
  C.succ.toList.zipIdx.all fun rq => rq.1.all fun e => (P.next rq.2).lookup e.1 == some e.2

def infoOK : Bool :=
  T.prods.toList.zipIdx.all fun pi =>
    P.info pi.2 == some (pi.1.rhsIds, pi.1.nt, pi.1.accept) && (P.prodsOf pi.1.nt).contains pi.2

def eofNonPos : Bool := T.eof.toList.all fun a => decide (a ≤ 0)

/-- the constants fit `parseFuel = 64 * (n + 2) + 1024` -/
def fuelOK : Bool := decide (2 * (P.wMax + P.rMax) + 2 ≤ 64)

def ok : Bool := edgesPotOK T C P && nextOK C P && infoOK T P && eofNonPos T && P.fuelOK

end Pot
end Aidl.Lr
