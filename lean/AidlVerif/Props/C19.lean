import AidlVerif.Model.Serde
import AidlVerif.Lemmas.Checks

/-!
# C19 — serialising a tree and reading it back gives an equal tree (serde attribute layer)
-/

namespace Aidl.Props.C19
open Aidl.Serde

theorem deLookup_append (sc : Schema) (n : String) (E₁ E₂ : List (String × S)) (h : n ∉ E₁.map (·.1)) :
    deLookup sc n (E₁ ++ E₂) = deLookup sc n E₂ := by
  induction E₁ with
  | nil => rfl
  | cons e rest ih =>
    obtain ⟨k, s⟩ := e
    simp only [List.map_cons, List.mem_cons, not_or] at h
    have : ¬ k = n := fun e => h.1 e.symm
    simp [deLookup, this, ih h.2]

theorem deLookup_not_mem (sc : Schema) (n : String) (E : List (String × S)) (h : n ∉ E.map (·.1)) :
    deLookup sc n E = none := by
  simpa [deLookup] using deLookup_append sc n E [] h

theorem serFields_names (sc : Schema) (F : List FieldSpec) (vals : List V) :
    ((serFields sc F vals).map (·.1)).Sublist (F.map (·.name)) := by
  induction F generalizing vals with
  | nil => simp [serFields]
  | cons fs fss ih =>
    cases vals with
    | nil => simp [serFields]
    | cons v vs =>
      simp only [serFields]
      split
      · exact (ih vs).cons _
      · exact (ih vs).cons_cons _

theorem serFields_append (sc : Schema) (F₁ F₂ : List FieldSpec) (v₁ v₂ : List V) (h : F₁.length = v₁.length) :
    serFields sc (F₁ ++ F₂) (v₁ ++ v₂) = serFields sc F₁ v₁ ++ serFields sc F₂ v₂ := by
  induction F₁ generalizing v₁ with
  | nil =>
    cases v₁ with
    | nil => simp [serFields]
    | cons _ _ => simp at h
  | cons fs fss ih =>
    cases v₁ with
    | nil => simp at h
    | cons v vs =>
      simp only [List.cons_append, serFields]
      have := ih vs (by simpa using h)
      split <;> simp [this]

theorem fields_roundtrip (sc : Schema) (F₁ F₂ : List FieldSpec) (v₁ v₂ : List V)
    (hl1 : F₁.length = v₁.length) (hl2 : F₂.length = v₂.length)
    (hnd : ((F₁ ++ F₂).map (·.name)).Nodup) (hc : ∀ fs ∈ F₂, fs.consistent = true)
    (hv : ∀ v ∈ v₂, de sc (ser sc v) = some v) :
    deFields sc F₂ (serFields sc (F₁ ++ F₂) (v₁ ++ v₂)) = some v₂ := by
  induction F₂ generalizing F₁ v₁ v₂ with
  | nil =>
    cases v₂ with
    | nil => simp [deFields]
    | cons _ _ => simp at hl2
  | cons fs fss ih =>
    cases v₂ with
    | nil => simp at hl2
    | cons v vs =>
      -- the rest, with `fs` moved to the processed prefix
      have hrest := ih (F₁ ++ [fs]) (v₁ ++ [v]) vs (by simp [hl1]) (by simpa using hl2)
        (by simpa [List.append_assoc] using hnd) (fun f hf => hc f (List.mem_cons_of_mem _ hf))
        (fun x hx => hv x (List.mem_cons_of_mem _ hx))
      simp only [List.append_assoc, List.singleton_append] at hrest
      simp only [deFields, hrest]
      rw [serFields_append sc F₁ (fs :: fss) v₁ (v :: vs) hl1]
      have hnd' := hnd
      rw [List.map_append, List.nodup_append] at hnd'
      have hnot1 : fs.name ∉ (serFields sc F₁ v₁).map (·.1) := by
        intro hm
        have := (serFields_names sc F₁ v₁).subset hm
        exact hnd'.2.2 _ this _ (by simp) rfl
      rw [deLookup_append sc fs.name _ _ hnot1]
      simp only [serFields]
      have hnd2 := hnd'.2.1
      rw [List.map_cons, List.nodup_cons] at hnd2
      by_cases hs : fs.skips v = true
      · -- skipped: absent from the output, restored from the default
        simp only [hs, if_true]
        have hnot2 : fs.name ∉ (serFields sc fss vs).map (·.1) := fun hm => hnd2.1 ((serFields_names sc fss vs).subset hm)
        rw [deLookup_not_mem sc _ _ hnot2]
        have hcons := hc fs (by simp)
        unfold FieldSpec.skips at hs
        unfold FieldSpec.consistent at hcons
        cases hp : fs.skipIf with
        | none => simp [hp] at hs
        | some p =>
          simp only [hp] at hs hcons
          cases hd : fs.default with
          | none => simp [hd] at hcons
          | some d =>
            simp only [hd] at hcons
            have e1 : d.toV = p.canon := by simpa using hcons
            have e2 : v = p.canon := by simpa [Pred.holds] using hs
            simp [e1, e2]
      · have hs' : fs.skips v = false := by simpa using hs
        simp [hs', deLookup, hv v (by simp)]

theorem deList_of_all (sc : Schema) (l : List V) (h : ∀ v ∈ l, de sc (ser sc v) = some v) :
    deList sc (serList sc l) = some l := by
  induction l with
  | nil => simp [serList, deList]
  | cons v vs ih =>
    simp only [serList, deList]
    rw [h v (by simp), ih (fun x hx => h x (List.mem_cons_of_mem _ hx))]

theorem consistent_fields (sc : Schema) (hc : sc.consistent = true) (name : String) :
    (∀ fs ∈ sc.fieldsOf name, fs.consistent = true) ∧ ((sc.fieldsOf name).map (·.name)).Nodup := by
  unfold Schema.fieldsOf
  cases hl : sc.lookup name with
  | none => simp
  | some F =>
    simp only [Option.getD_some]
    unfold Schema.consistent at hc
    have := List.all_eq_true.mp hc _ (Aidl.Checks.lookup_mem hl)
    simp only [Bool.and_eq_true, List.all_eq_true, decide_eq_true_eq] at this
    exact this

mutual
theorem roundtrip (sc : Schema) (hc : sc.consistent = true) : (v : V) → V.wf sc v = true → de sc (ser sc v) = some v
  | .bool b, _ => by simp [ser, de]
  | .nat n, _ => by simp [ser, de]
  | .str s, _ => by simp [ser, de]
  | .none_, _ => by simp [ser, de]
  | .some_ v, h => by
    simp only [V.wf] at h
    simp [ser, de, roundtrip sc hc v h]
  | .seq l, h => by
    simp only [V.wf] at h
    simp [ser, de, deList_of_all sc l (roundtripAll sc hc l h)]
  | .variant n payload, h => by
    simp only [V.wf] at h
    simp [ser, de, deList_of_all sc payload (roundtripAll sc hc payload h)]
  | .struct name vals, h => by
    simp only [V.wf, Bool.and_eq_true, beq_iff_eq] at h
    obtain ⟨hcons, hnd⟩ := consistent_fields sc hc name
    have := fields_roundtrip sc [] (sc.fieldsOf name) [] vals rfl h.1.symm (by simpa using hnd) hcons
      (roundtripAll sc hc vals h.2)
    simp only [List.nil_append] at this
    simp [ser, de, this]
theorem roundtripAll (sc : Schema) (hc : sc.consistent = true) : (l : List V) → V.wfList sc l = true →
    ∀ v ∈ l, de sc (ser sc v) = some v
  | [], _ => by simp
  | x :: xs, h => by
    simp only [V.wfList, Bool.and_eq_true] at h
    exact List.forall_mem_cons.mpr ⟨roundtrip sc hc x h.1, roundtripAll sc hc xs h.2⟩
end

/-- negative control: `Method.oneway` skipped when true but defaulted to false (ast.rs before its
    repair, the `fixed:` entry of C19 in known_findings.json) is inconsistent, and a oneway method
    does not survive the round trip under it -/
example :
    let fs : FieldSpec := { name := "oneway", skipIf := some .boolIsTrue, default := some (.bool false) }
    fs.consistent = false
    ∧ de [("Method", [fs])] (ser [("Method", [fs])] (.struct "Method" [.bool true])) = some (.struct "Method" [.bool false]) := by
  simp [FieldSpec.consistent, ser, serFields, de, deFields, deLookup, Schema.fieldsOf, FieldSpec.skips,
    Pred.holds, Pred.canon, DefaultV.toV, List.lookup]

end Aidl.Props.C19
