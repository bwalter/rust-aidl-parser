import AidlVerif.Spec.C06
import AidlVerif.Lemmas.Validate

namespace Aidl.Props.C06
open Aidl Aidl.Spec Aidl.Spec.C06

def keyed (l : List Import) : List (String × Import) := l.map (fun i => (i.qname, i))

theorem usage_perm (ho : HashOrder) (l : List Import) (u : String × Import → List Diag)
    (r : Import → List Report) (hu : ∀ i, (u (i.qname, i)).map reportOf = r i) :
    (((ho.ord (keyed l)).flatMap u).map reportOf).Perm (l.flatMap r) := by
  refine (((ho.perm _).flatMap_right u).map reportOf).trans (.of_eq ?_)
  simp only [keyed, List.flatMap_map, List.map_flatMap, hu]

theorem mem_ord_keyed {ho : HashOrder} {l : List Import} {e : String × Import} (he : e ∈ ho.ord (keyed l)) :
    ∃ i ∈ l, e = (i.qname, i) := by
  obtain ⟨i, hi, rfl⟩ := List.mem_map.mp ((ho.perm _).mem_iff.mp he)
  exact ⟨i, hi, rfl⟩

/-- the Error of `check_imports` (validation.rs) for an import whose qualified name is in the map -/
def dupImportDiag (imp previous : Import) : Diag :=
  mkDiag .error imp.sym ("Duplicated import `" ++ imp.qname ++ "`")
    (some "duplicated import") none [{ message := "previous location", range := previous.sym }]

theorem accepted_none (l : List Import) : accepted (fun _ : Import => (none : Option Diag)) l = l := by
  simp [accepted]

theorem importsFold_eq (imports : List Import) :
    importsFold imports
      = (keyed (firsts Import.qname imports), pushed Import.qname (fun _ => none) dupImportDiag [] imports) := by
  have hstep : importsFold imports
      = imports.foldl (firstsStep Import.qname (fun _ => none) dupImportDiag) ([], []) := by
    unfold importsFold
    congr 1
    funext acc imp
    unfold firstsStep
    cases acc.1.lookup imp.qname <;> rfl
  rw [hstep, firstsFold_all, accepted_none]
  rfl

theorem pushed_imports (pre rest : List Import) :
    (pushed Import.qname (fun _ => none) dupImportDiag pre rest).map reportOf = dupReports pre rest := by
  induction rest generalizing pre with
  | nil => rfl
  | cons i rest ih =>
    simp only [pushed, pushedFor, accepted_none, List.map_append, ih, dupReports]
    cases pre.find? (fun p => p.qname == i.qname) <;> rfl

theorem importUsage_eq (resolved : List String) (defined : Defined) (i : Import) :
    (importUsageDiag resolved defined (i.qname, i)).map reportOf = importUsageReport resolved defined i
    ∧ ∀ d ∈ importUsageDiag resolved defined (i.qname, i), d.range = i.sym := by
  unfold importUsageDiag importUsageReport
  have : AKind.fromQualifiedName i.qname = C05.builtinQualified i.qname := rfl
  simp only [this]
  split
  · simp [reportOf, mkDiag]
  · split <;> simp [reportOf, mkDiag]

/-- the import map of `check_imports` holds the first occurrence of every qualified name, and the
    diagnostics are — as a multiset, whatever the hash order — the repeats plus one usage report
    per first occurrence -/
theorem checkImports_spec (ho : HashOrder) (imports : List Import) (resolved : List String) (defined : Defined) :
    (checkImports ho imports resolved defined).1 = keyed (firsts Import.qname imports)
    ∧ ((checkImports ho imports resolved defined).2.map reportOf).Perm (importReports resolved defined imports)
    ∧ ∀ d ∈ (checkImports ho imports resolved defined).2, ∃ i ∈ imports, d.range = i.sym := by
  unfold checkImports
  rw [importsFold_eq]
  refine ⟨rfl, ?_, ?_⟩
  · unfold importReports
    rw [List.map_append, pushed_imports]
    exact (usage_perm ho _ _ _ fun i => (importUsage_eq resolved defined i).1).append_left _
  · intro d hd
    rcases List.mem_append.mp hd with hd | hd
    · obtain ⟨i, hi, h | ⟨p, rfl⟩⟩ := mem_pushed Import.qname (fun _ => none) dupImportDiag [] imports d hd
      · cases h
      · exact ⟨i, hi, rfl⟩
    · obtain ⟨e, he, hde⟩ := List.mem_flatMap.mp hd
      obtain ⟨i, hi, rfl⟩ := mem_ord_keyed he
      exact ⟨i, mem_of_mem_firsts hi, (importUsage_eq resolved defined i).2 d hde⟩

/-- the Error of `check_declared_parcelables` for a declaration whose name some import has, naming
    the least such import by qualified name (`min_by_key`) -/
def conflictDiag (importMap : List (String × Import)) (dp : Import) : Option Diag :=
  (minByKey? (importMap.filter (fun e => e.2.name == dp.name))).map fun conflicting =>
    mkDiag .error dp.sym ("Declared parcelable conflicts with import `" ++ conflicting.2.qname ++ "`")
      (some "conflicting declaration") none
      [{ message := "location of conflicting import", range := conflicting.2.sym }]

/-- the Error of `check_declared_parcelables` for a declaration whose qualified name is in its map -/
def dupDeclDiag (dp previous : Import) : Diag :=
  mkDiag .error dp.sym ("Multiple parcelable declarations `" ++ dp.qname ++ "`")
    (some "duplicated declaration") none [{ message := "previous location", range := previous.sym }]

theorem declaredFold_eq (decls : List Import) (importMap : List (String × Import)) :
    declaredFold decls importMap
      = (keyed (firsts Import.qname (accepted (conflictDiag importMap) decls)),
         pushed Import.qname (conflictDiag importMap) dupDeclDiag [] decls) := by
  have hstep : declaredFold decls importMap
      = decls.foldl (firstsStep Import.qname (conflictDiag importMap) dupDeclDiag) ([], []) := by
    unfold declaredFold
    congr 1
    funext acc dp
    unfold firstsStep conflictDiag
    cases minByKey? (importMap.filter (fun e => e.2.name == dp.name)) with
    | some c => rfl
    | none =>
      simp only [Option.map_none]
      cases acc.1.lookup dp.qname <;> rfl
  rw [hstep, firstsFold_all]
  rfl

theorem conflict_eq (imports : List Import) (d : Import) :
    (minByKey? ((keyed (firsts Import.qname imports)).filter (fun e => e.2.name == d.name))).map (·.2)
      = conflictOf imports d := by
  unfold conflictOf keyed
  rw [List.filter_map]
  rfl

theorem accepted_decls (imports l : List Import) :
    accepted (conflictDiag (keyed (firsts Import.qname imports))) l = freeDecls imports l := by
  simp only [accepted, freeDecls, ← conflict_eq, conflictDiag, Option.isNone_map]

theorem pushed_decls (imports pre rest : List Import) :
    (pushed Import.qname (conflictDiag (keyed (firsts Import.qname imports))) dupDeclDiag pre rest).map reportOf
      = declStructReports imports pre rest := by
  induction rest generalizing pre with
  | nil => rfl
  | cons i rest ih =>
    simp only [pushed, pushedFor, accepted_decls, List.map_append, ih, declStructReports, ← conflict_eq]
    congr 1
    unfold conflictDiag
    cases minByKey? ((keyed (firsts Import.qname imports)).filter (fun e => e.2.name == i.name)) with
    | some c => rfl
    | none => cases (freeDecls imports pre).find? (fun p => p.qname == i.qname) <;> rfl

theorem conflictDiag_range (importMap : List (String × Import)) (x : Import) (d : Diag)
    (h : conflictDiag importMap x = some d) : d.range = x.sym := by
  obtain ⟨c, -, rfl⟩ := Option.map_eq_some_iff.mp h
  rfl

theorem declUsage_eq (resolved : List String) (i : Import) :
    (declaredUsageDiag resolved (i.qname, i)).map reportOf = declUsageReport resolved i
    ∧ ∀ d ∈ declaredUsageDiag resolved (i.qname, i), d.range = i.sym ∨ d.range = i.full := by
  unfold declaredUsageDiag declUsageReport
  split <;> simp [reportOf, mkDiag]

/-- as a multiset, whatever the hash order, the diagnostics of `check_declared_parcelables` are the
    conflict / repeat Errors plus one usage report per first free occurrence -/
theorem checkDecls_spec (ho : HashOrder) (imports decls : List Import) (resolved : List String) :
    ((checkDeclaredParcelables ho decls (keyed (firsts Import.qname imports)) resolved).map reportOf).Perm
      (declReports resolved imports decls)
    ∧ ∀ d ∈ checkDeclaredParcelables ho decls (keyed (firsts Import.qname imports)) resolved,
        ∃ i ∈ decls, d.range = i.sym ∨ d.range = i.full := by
  unfold checkDeclaredParcelables
  rw [declaredFold_eq, accepted_decls]
  constructor
  · unfold declReports
    rw [List.map_append, pushed_decls]
    exact (usage_perm ho _ _ _ fun i => (declUsage_eq resolved i).1).append_left _
  · intro d hd
    rcases List.mem_append.mp hd with hd | hd
    · obtain ⟨i, hi, h | ⟨p, rfl⟩⟩ := mem_pushed Import.qname _ dupDeclDiag [] decls d hd
      · exact ⟨i, hi, Or.inl (conflictDiag_range _ i d h)⟩
      · exact ⟨i, hi, Or.inl rfl⟩
    · obtain ⟨e, he, hde⟩ := List.mem_flatMap.mp hd
      obtain ⟨i, hi, rfl⟩ := mem_ord_keyed he
      exact ⟨i, (List.mem_filter.mp (mem_of_mem_firsts hi)).1, (declUsage_eq resolved i).2 d hde⟩


theorem resolvedKeys_validated {ho : HashOrder} {defined : Defined} {syn : List Diag} {ast : AidlFile}
    {g : Groups} (V : Validated ho defined syn ast g) : resolvedKeys g.ast = resolvedSet defined ast := by
  unfold resolvedKeys
  rw [V.ast_eq, allTypesPre_setUpOneway, allTypesPre_mapTypes, List.filterMap_map]
  simp only [Function.comp_def, Ty.mapKind_kind]

/-- the set `resolved` handed to the import checks is exactly the set of keys of ALL type nodes of
    the validated tree, at any depth -/
theorem resolved_is_deep {ho : HashOrder} {defined : Defined} {syn : List Diag} {ast : AidlFile} {g : Groups}
    (hg : validateGroups ho defined syn ast = .ok g) :
    (resolveTypes ast (ast.imports.map Import.qname) (ast.declaredParcelables.map Import.qname) defined).2.1
      = resolvedKeys g.ast := by
  rw [Props.C05.resolveTypes_eq, resolvedKeys_validated (validated hg)]

/-- no diagnostic of another step sits on an import / declaration statement (decidable; evaluated
    by the harness on every case) -/
def Fresh (g : Groups) : Prop :=
  ∀ d ∈ g.syn ++ g.unknown ++ g.containers ++ g.oneway ++ g.methods, (stmtRanges g.ast).contains d.range = false

instance (g : Groups) : Decidable (Fresh g) := by unfold Fresh; infer_instance

/-- **C06 for the model**: for any hash order, the diagnostics on the import / declaration
    statements of a validated file are, as a multiset, exactly the specified reports. -/
theorem holds (ho : HashOrder) (defined : Defined) (fr out : FileResult)
    (h : validateFile ho defined fr = .ok out)
    (fresh : ∀ ast g, fr.ast = some ast → validateGroups ho defined fr.diags ast = .ok g → Fresh g) :
    holdsFile defined out = true := by
  obtain ⟨hast, rfl⟩ | ⟨ast, g, hast, hg, rfl⟩ := validateFile_eq_ok h
  · simp [holdsFile, hast]
  have V := validated hg
  obtain ⟨hm, hpi, hri⟩ := checkImports_spec ho ast.imports (resolvedSet defined ast) defined
  obtain ⟨hpd, hrd⟩ := checkDecls_spec ho ast.imports ast.declaredParcelables (resolvedSet defined ast)
  rw [← V.imports_eq] at hpi hri
  rw [← hm, ← V.decls_eq] at hpd hrd
  simp only [holdsFile, List.isPerm_iff, V.imports_ast, V.decls_ast, resolvedKeys_validated V]
  refine .trans ?_ (hpi.append hpd)
  rw [← List.map_append]
  refine ((sel_group g.all_perm_stmts fun d hd => fresh ast g hast hg d hd).trans (.of_eq ?_)).map _
  -- everything the two checks push sits on a statement
  refine List.filter_eq_self.mpr fun d hdm => ?_
  simp only [stmtRanges, V.imports_ast, V.decls_ast, List.contains_eq_mem, List.mem_append, List.mem_map,
    decide_eq_true_eq]
  rcases List.mem_append.mp hdm with hm | hm
  · obtain ⟨i, him, e⟩ := hri d hm
    exact Or.inl (Or.inl ⟨i, him, e.symm⟩)
  · obtain ⟨i, him, e | e⟩ := hrd d hm
    · exact Or.inl (Or.inr ⟨i, him, e.symm⟩)
    · exact Or.inr ⟨i, him, e.symm⟩

end Aidl.Props.C06
