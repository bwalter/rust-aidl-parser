import AidlVerif.Props.C09
import AidlVerif.Props.C12

/-!
# C01, the validation half — validation is total: no panic, one result per id

Rust partial operations are explicit `Except.error` outcomes of the model; the theorems below show
them unreachable in validation, on trees with the grammar's arities (`ArityOK`). That the parser
returns for every text (`ParseTerm.addContent_total`), that its trees have these arities and so
parsing then validating returns (`PipelineTotal.parse_then_validate_total`) is proved there.
-/

namespace Aidl.Props.C01
open Aidl Aidl.Spec

/-- what the grammar guarantees about the generic lists of containers -/
def arityOk (t : Ty) : Bool :=
  match t.kind with
  | .array => t.gens.length ≥ 1
  | .list => t.gens.length ≤ 1
  | .map => t.gens.length = 0 ∨ t.gens.length = 2
  | _ => true

def ArityOK (ast : AidlFile) : Prop := ∀ t ∈ allTypesWalk ast, arityOk t = true

instance (ast : AidlFile) : Decidable (ArityOK ast) := by unfold ArityOK; infer_instance

theorem checkContainer_ok (t : Ty) (h : arityOk t = true) : ∃ ds, checkContainer t = .ok ds := by
  obtain ⟨n, k, g, s, f⟩ := t
  unfold checkContainer
  unfold arityOk at h
  simp only [Ty.kind, Ty.gens] at *
  cases k with
  | array =>
    cases g with
    | nil => simp at h
    | cons e es => exact ⟨_, rfl⟩
  | list =>
    match g, h with
    | [], _ => exact ⟨_, rfl⟩
    | [e], _ => exact ⟨_, rfl⟩
    | _ :: _ :: _, h => simp at h
  | map =>
    match g, h with
    | [], _ => exact ⟨_, rfl⟩
    | [a], h => simp at h
    | [a, b], _ => exact ⟨_, rfl⟩
    | _ :: _ :: _ :: _, h => simp at h
  | _ => exact ⟨_, rfl⟩

theorem checkContainers_ok (ast : AidlFile) (h : ArityOK ast) : ∃ ds, checkContainers ast = .ok ds := by
  obtain ⟨dss, hd⟩ := (mapExcept_isOk checkContainer _).mpr fun t ht => checkContainer_ok t (h t ht)
  exact ⟨dss.flatten, by rw [checkContainers_eq_mapExcept, hd]; rfl⟩

/-- `check_methods` never panics: its two `unwrap()`s are guarded by the state invariant -/
theorem checkMethods_ok (ast : AidlFile) : ∃ ds, checkMethods ast = .ok ds := by
  obtain ⟨ids, hids, -⟩ := Props.C09.ids_spec_all (methodsOf ast)
  have := checkMethods_eq ast
  rw [hids] at this
  obtain ⟨ds, h, -⟩ := this
  exact ⟨ds, h⟩

theorem newKind_container (imports declared : List String) (defined : Defined) (t : Ty) {k : TypeKind}
    (hk : k = .array ∨ k = .list ∨ k = .map) : Spec.C05.newKind imports declared defined t = k ↔ t.kind = k := by
  refine Props.C05.newKind_eq_iff imports declared defined t ?_
  rcases hk with rfl | rfl | rfl <;> exact ⟨nofun, fun _ => nofun, fun _ _ => nofun⟩

mutual
theorem walkOrder_mapKind (h : Ty → TypeKind) (harr : ∀ t, h t = .array ↔ t.kind = .array) : (t : Ty) →
    Ty.walkOrder (Ty.mapKind h t) = (Ty.walkOrder t).map (Ty.mapKind h)
  | .mk n k g s f => by
    simp only [Ty.mapKind, Ty.walkOrder]
    have := harr (.mk n k g s f)
    simp only [Ty.kind] at this
    by_cases hk : k = .array
    · subst hk
      have e := this.mpr rfl
      simp only [e, if_true, List.map_append, List.map_cons, List.map_nil, Ty.mapKind]
      rw [walkOrderList_mapKind h harr g]
    · have hk' : ¬ h (.mk n k g s f) = .array := fun e => hk (this.mp e)
      simp only [hk', hk, if_false, List.map_cons, Ty.mapKind]
      rw [walkOrderList_mapKind h harr g]
theorem walkOrderList_mapKind (h : Ty → TypeKind) (harr : ∀ t, h t = .array ↔ t.kind = .array) : (l : List Ty) →
    Ty.walkOrderList (Ty.mapKindList h l) = (Ty.walkOrderList l).map (Ty.mapKind h)
  | [] => by simp [Ty.mapKindList, Ty.walkOrderList]
  | t :: ts => by
    simp only [Ty.mapKindList, Ty.walkOrderList, List.map_append]
    rw [walkOrder_mapKind h harr t, walkOrderList_mapKind h harr ts]
end

theorem mapKind_gens_length (h : Ty → TypeKind) (t : Ty) : (Ty.mapKind h t).gens.length = t.gens.length := by
  obtain ⟨n, k, g, s, f⟩ := t
  simp [Ty.mapKind, Ty.gens, Ty.mapKindList_eq]

theorem arityOK_resolved (ast : AidlFile) (imports declared : List String) (defined : Defined) (h : ArityOK ast) :
    ArityOK (mapTypes (Spec.C05.newKind imports declared defined) ast) := by
  unfold ArityOK allTypesWalk at *
  rw [topTypes_mapTypes, List.flatMap_map]
  intro t ht
  obtain ⟨t0, ht0, htm⟩ := List.mem_flatMap.mp ht
  rw [walkOrder_mapKind _ (fun x => newKind_container imports declared defined x (.inl rfl)) t0] at htm
  obtain ⟨t1, ht1, rfl⟩ := List.mem_map.mp htm
  have h1 := h t1 (List.mem_flatMap.mpr ⟨t0, ht0, ht1⟩)
  unfold arityOk at h1 ⊢
  rw [mapKind_gens_length, Ty.mapKind_kind]
  cases hk : Spec.C05.newKind imports declared defined t1 with
  | array => rwa [(newKind_container imports declared defined t1 (.inl rfl)).mp hk] at h1
  | list => rwa [(newKind_container imports declared defined t1 (.inr (.inl rfl))).mp hk] at h1
  | map => rwa [(newKind_container imports declared defined t1 (.inr (.inr rfl))).mp hk] at h1
  | _ => rfl

theorem validateFile_ok (ho : HashOrder) (defined : Defined) (fr : FileResult)
    (h : ∀ a, fr.ast = some a → ArityOK a) : ∃ out, validateFile ho defined fr = .ok out := by
  unfold validateFile
  cases hast : fr.ast with
  | none => exact ⟨fr, rfl⟩
  | some ast =>
    obtain ⟨g, hg⟩ := (validateGroups_isOk (ho := ho) (syn := fr.diags)).mpr
      ⟨checkContainers_ok _ (arityOK_resolved ast _ _ defined (h ast hast)), checkMethods_ok _⟩
    simp only [hg]
    exact ⟨_, rfl⟩

theorem validateFile_id (ho : HashOrder) (defined : Defined) (fr out : FileResult)
    (h : validateFile ho defined fr = .ok out) : out.id = fr.id := by
  obtain ⟨-, rfl⟩ | ⟨_, _, -, -, rfl⟩ := validateFile_eq_ok h
  · rfl
  · rfl

/-- the results of `validate` carry exactly the ids of the files in the parser (as a list, in
    iteration order) -/
theorem validate_keys (ho : HashOrder) (files r : List FileResult) (h : validate ho files = .ok r) :
    r.map (·.id) = (ho.ord files).map (·.id) := by
  unfold validate at h
  exact mapExcept_ind (P := fun l r => r.map (·.id) = l.map (·.id)) rfl
    (fun x y _ _ hx ih => by simp [validateFile_id ho _ x y hx, ih]) h

theorem validate_no_panic (ho : HashOrder) (files : List FileResult)
    (h : ∀ fr ∈ files, ∀ a, fr.ast = some a → ArityOK a) : ∃ r, validate ho files = .ok r := by
  unfold validate
  simp only
  rw [mapExcept_isOk]
  intro fr hfr
  exact validateFile_ok ho _ fr (h fr ((ho.perm files).mem_iff.mp hfr))

/-- after ANY history, the ids of the results are exactly the ids currently in the parser, once each -/
theorem results_per_id (parse : ParseFn) (read : String → Except String String) (ho ho' : HashOrder)
    (ops : List Op) (r : List FileResult)
    (h : validate ho' (run parse read ho [] ops).values = .ok r) :
    (r.map (·.id)).Perm ((Spec.C12.contents read ops).map (·.1)) ∧ (r.map (·.id)).Nodup := by
  have hk := validate_keys ho' _ r h
  rw [Props.C12.store_refines] at hk
  have hperm : (r.map (·.id)).Perm ((Spec.C12.contents read ops).map (·.1)) := by
    rw [hk]
    refine ((ho'.perm _).map _).trans ?_
    unfold Store.values
    simp [List.map_map, Spec.C12.entry, Function.comp_def]
  exact ⟨hperm, hperm.nodup_iff.mpr (Props.C12.contents_keys_nodup read ops)⟩

end Aidl.Props.C01
