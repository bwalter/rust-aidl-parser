import AidlVerif.Props.RegexSound

/-!
The backtracking matcher evaluated exactly on the shapes the lexer table and the javadoc expressions are made of: a
character class, a sequence, and a `star` over a class, which tries the longest run first and then every shorter one
(`starLoop_cls`, `m_star_cls`, `tryFrom`). Nothing here speaks of a particular expression. The namespace is `JavadocSpec`'s:
`tools/props.py` audits `Aidl.Props.JavadocSpec.starLoop_cls` for C18, whose scanners were the first users.
-/

namespace Aidl.Props.JavadocSpec
open Aidl.Regex Aidl.Javadoc Aidl.Props.JavadocTotal

theorem char_of_toNat (c : Char) (n : Nat) (h : c.toNat = n) : c = Char.ofNat n := by
  rw [← h, Char.ofNat_toNat]

theorem mem_takeWhile_imp {α} (q : α → Bool) (l : List α) (x : α) (h : x ∈ l.takeWhile q) : q x = true :=
  List.all_eq_true.mp List.all_takeWhile x h

theorem dropWhile_head_not {α} (q : α → Bool) (l : List α) (c : α) (t : List α) (h : l.dropWhile q = c :: t) : q c = false := by
  have := List.head?_dropWhile_not q l
  rwa [h] at this

theorem span_run {α} (q : α → Bool) (run rest : List α) (hrun : ∀ c ∈ run, q c = true)
    (hstop : ∀ c t, rest = c :: t → q c = false) :
    (run ++ rest).takeWhile q = run ∧ (run ++ rest).dropWhile q = rest := by
  rw [List.takeWhile_append_of_pos hrun, List.dropWhile_append_of_pos hrun]
  cases rest with
  | nil => simp
  | cons c t => simp [hstop c t rfl]

theorem inCls_single (n : Nat) (c : Char) : inCls [(n, n)] c = decide (c.toNat = n) := by
  simp only [inCls, List.any_cons, List.any_nil, Bool.or_false]
  by_cases h : c.toNat = n
  · simp [h]
  · simp [h]
    omega

theorem eq_of_inCls_single (n : Nat) (c : Char) (h : inCls [(n, n)] c = true) : c = Char.ofNat n :=
  char_of_toNat c n (of_decide_eq_true ((inCls_single n c).symm.trans h))

theorem inCls_chr {n : Nat} {x : Char} (hn : x.toNat = n) (d : Char) : inCls [(n, n)] d = decide (d = x) :=
  (inCls_single n d).trans (decide_eq_decide.mpr ⟨fun h => Char.toNat_inj.mp (h.trans hn.symm), fun h => h ▸ hn⟩)

/-- the upper end `0x10FFFF` of the classes "every character but …" -/
theorem valid_lt (c : Char) : c.toNat < 1114112 := by
  have := c.valid
  simp only [UInt32.isValidChar, Nat.isValidChar] at this
  show c.val.toNat < _
  omega

/-- the continuation of `matchAt` -/
def acc : K := fun _ p' => some p'

theorem m_cls_cons (rs : List (Nat × Nat)) (f : Nat) (c : Char) (s : List Char) (p : Nat) (k : K) :
    m (.cls rs) f (c :: s) p k = if inCls rs c then k s (p + c.utf8Size) else none := rfl

theorem m_seq (a b : Re) (f : Nat) (s : List Char) (p : Nat) (k : K) :
    m (.seq a b) f s p k = m a f s p (fun s' p' => m b f s' p' k) := rfl

theorem m_star (a : Re) (f : Nat) (s : List Char) (p : Nat) (k : K) :
    m (.star a) f s p k = starLoop (m a f) k f s p := rfl

def tryFrom (k : K) : List Char → List Char → Nat → Option Nat
  | [], rest, p => k rest p
  | c :: run, rest, p =>
    match tryFrom k run rest (p + c.utf8Size) with
    | some r => some r
    | none => k (c :: run ++ rest) p

def HeadOut (rs : List (Nat × Nat)) (rest : List Char) : Prop := ∀ c t, rest = c :: t → inCls rs c = false

theorem starLoop_cls (rs : List (Nat × Nat)) (f : Nat) (k : K) :
    ∀ (run rest : List Char) (n p : Nat), run.length ≤ n → (∀ c ∈ run, inCls rs c = true) → HeadOut rs rest →
      starLoop (m (.cls rs) f) k n (run ++ rest) p = tryFrom k run rest p := by
  intro run
  induction run with
  | nil =>
    intro rest n p _ _ hout
    simp only [List.nil_append, tryFrom]
    cases n with
    | zero => rfl
    | succ n =>
      simp only [starLoop]
      cases rest with
      | nil => simp [m]
      | cons c t => simp [m, hout c t rfl]
  | cons c run ih =>
    intro rest n p hn hin hout
    cases n with
    | zero => simp at hn
    | succ n =>
      have hc : inCls rs c = true := hin c (by simp)
      have hpos := c.utf8Size_pos
      rw [List.cons_append, starLoop, m_cls_cons, if_pos hc]
      rw [if_pos (by omega), ih rest n (p + c.utf8Size) (by simp at hn; omega) (fun d hd => hin d (by simp [hd])) hout]
      rfl

theorem m_star_cls (rs : List (Nat × Nat)) (f : Nat) (k : K) (s : List Char) (p : Nat) (hf : s.length ≤ f) :
    m (.star (.cls rs)) f s p k = tryFrom k (s.takeWhile (inCls rs)) (s.dropWhile (inCls rs)) p := by
  rw [m_star]
  conv => lhs; rw [← List.takeWhile_append_dropWhile (p := inCls rs) (l := s)]
  exact starLoop_cls rs f k _ _ f p (Nat.le_trans (List.takeWhile_sublist _).length_le hf)
    (fun c hc => mem_takeWhile_imp _ s c hc) (fun c t ht => dropWhile_head_not _ s c t ht)

theorem tryFrom_first (k : K) : ∀ (run rest : List Char) (p e : Nat), k rest (p + utf8Len run) = some e →
    tryFrom k run rest p = some e
  | [], rest, p, e, h => by simpa [tryFrom, utf8Len_nil] using h
  | c :: run, rest, p, e, h => by
    rw [tryFrom, tryFrom_first k run rest (p + c.utf8Size) e (by rwa [utf8Len_cons, ← Nat.add_assoc] at h)]

theorem tryFrom_last (k : K) : ∀ (run rest : List Char) (p : Nat), (∀ c ∈ run, ∀ t q, k (c :: t) q = none) →
    tryFrom k run rest p = k rest (p + utf8Len run)
  | [], rest, p, _ => by simp [tryFrom, utf8Len_nil]
  | c :: run, rest, p, h => by
    rw [tryFrom, tryFrom_last k run rest _ (fun d hd => h d (by simp [hd])), utf8Len_cons, Nat.add_assoc,
      List.cons_append, h c (by simp)]
    cases k rest (p + (c.utf8Size + utf8Len run)) <;> rfl

/-- a run of `body` characters closed by `x`, which is not one of them (the `@` behind blanks; the quote of a string
literal in `SkipEntries`) -/
theorem m_star_then_chr (body : List (Nat × Nat)) (x : Char) (n : Nat) (hn : x.toNat = n) (hx : inCls body x = false)
    (f : Nat) (t : List Char) (p : Nat) (hf : t.length ≤ f) :
    m (.seq (.star (.cls body)) (.cls [(n, n)])) f t p acc
      = match t.dropWhile (inCls body) with
        | d :: _ => if d = x then some (p + utf8Len (t.takeWhile (inCls body)) + x.utf8Size) else none
        | [] => none := by
  rw [m_seq, m_star_cls _ f _ t _ hf, tryFrom_last]
  · -- behind the run: the closing character, or nothing
    cases t.dropWhile (inCls body) with
    | nil => rfl
    | cons d t' =>
      rw [m_cls_cons, inCls_chr hn]
      by_cases hd : d = x
      · simp [hd, acc]
      · simp [hd]
  · -- a character of the run is not the closing character
    intro c hc t' q
    rw [m_cls_cons, inCls_chr hn, if_neg]
    intro h
    have hb := mem_takeWhile_imp _ t c hc
    rw [of_decide_eq_true h, hx] at hb
    cases hb

end Aidl.Props.JavadocSpec
