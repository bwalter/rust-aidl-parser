import AidlVerif.Driver.Parse
import AidlVerif.Spec.ParseLevel

/-!
Checks of the tables regenerated from the generated parser, shared by the parse-level properties (C01–C04, C14, C18).
Everything here is re-checked by the kernel against the tables of THIS run (`decide +kernel` evaluates, it adds no axiom).
-/

namespace Aidl.Props.Parser
open Aidl Aidl.Actions Aidl.Lexer Aidl.Regex

def userPinned : Bool := Gen.actionDefs.toList.all fun d => match d with
  | .user _ h => (printToLabel.lookup h).isSome
  | _ => true

/-- **Pinned equality**: every action of the regenerated parser that carries text of
    `aidl.lalrpop` has the print (parameter list, return type, body) of an action modelled by hand
    in `Model/Actions.lean`. Any edit of an action's text breaks this theorem. -/
theorem userActions_pinned : userPinned = true := by decide +kernel

def nstates : Nat := Gen.actionTable.size
def nprods : Nat := Gen.productions.size

def tablesInRange : Bool :=
  -- ACTION: rows have the declared width; shifts and reductions index inside the tables
  Gen.actionTable.toList.all (fun row => row.size == Gen.ncols &&
    row.toList.all fun a => a < (nstates + 1 : Nat) ∧ -(nprods : Int) ≤ a + 0 ∧ a ≥ -(nprods : Int))
  -- EOF actions: a reduction inside the table, or the error action
  && Gen.eofAction.size == nstates
  && Gen.eofAction.toList.all (fun a => a ≤ 0 ∧ a ≥ -(nprods : Int))
  -- GOTO targets are states
  && Gen.gotoTable.all (fun e => e.2.1 < nstates && e.2.2.all fun c => c.1 < nstates && c.2 < nstates)
  -- every reduction pops exactly its right-hand side; exactly one production accepts
  && Gen.productions.toList.all (fun p => p.pops == p.rhs.length && p.action < Gen.actionDefs.size)
  && (Gen.productions.toList.filter (·.accept)).length == 1
  -- one ACTION column per terminal plus the error column; every lexer entry is mapped at most once, to a terminal column
  && Gen.terminals.size + 1 == Gen.ncols
  && Gen.tokToCol.all (fun e => e.1 < Gen.lexTable.size && e.2 < Gen.terminals.size)
  && (Gen.tokToCol.map (·.1)).eraseDups.length == Gen.tokToCol.length

theorem tables_in_range : tablesInRange = true := by decide +kernel

/-- arities: every production hands its action as many arguments as the action takes
    (two bare locations for an empty production) -/
def aritiesAgree : Bool :=
  Gen.productions.toList.all fun p =>
    let expected := if p.rhs.isEmpty then 2 else p.rhs.length
    match Gen.actionDefs[p.action]? with
    | some (.composite n _) => n == expected
    | some (.prim n _) => n == expected
    | some (.user n _) => n == expected
    | none => false

theorem arities_agree : aritiesAgree = true := by
  unfold aritiesAgree
  -- the kernel walks a list faster than it indexes an array
  simp only [← Array.getElem?_toList]
  decide +kernel

theorem lit_prefix (w rest : List Char) (fuel p : Nat) (k : K) :
    m (w.foldr (fun c acc => .seq (Re.chr c) acc) .eps) fuel (w ++ rest) p k
      = k rest (w.foldl (fun n c => n + c.utf8Size) p) := by
  induction w generalizing p with
  | nil => simp [m]
  | cons c w ih =>
    simp only [List.foldr_cons, List.cons_append, m, Re.chr, inCls, List.any_cons, List.any_nil,
      Nat.le_refl, Bool.and_self, Bool.or_false, List.foldl_cons]
    exact ih _

/-- index of the IDENT entry of the lexer table: the entry `[A-Z_a-z][0-9A-Z_a-z]*` -/
def identIndex : Nat := 2

theorem identIndex_is_ident :
    (Gen.lexTable[identIndex]?).map (·.1)
      = some (Re.seqs [.cls [(65, 90), (95, 95), (97, 122)], .star (.cls [(48, 57), (65, 90), (95, 95), (97, 122)])]) := by
  decide +kernel

def wordLexesAsNonIdent (w : List Char) : Bool :=
  match bestMatch Gen.lexTable (w.length + 1) w 0 with
  | some (len, i) => len == w.length && i != identIndex
  | none => false

/-- **Every keyword and every reserved word, written alone, is lexed in full by an entry other
    than IDENT** (longest match, ties to the later entry) — for the regenerated lexer table. -/
theorem keywords_lex_as_keywords :
    (Spec.PL.keywords ++ Spec.PL.reserved).all (fun w => wordLexesAsNonIdent w.toList) = true := by
  decide +kernel

/-- non-vacuity: an ordinary identifier IS lexed by the IDENT entry -/
example : bestMatch Gen.lexTable 10 "foo".toList 0 = some (3, identIndex) := by decide +kernel

/-- out of fuel, `next` answers `invalid` (its loop spends fuel on skipped matches only) -/
theorem next_zero_fuel (table : LexTable) (s : List Char) (p : Nat) : Lexer.next table 0 s p = .invalid p := rfl

end Aidl.Props.Parser
