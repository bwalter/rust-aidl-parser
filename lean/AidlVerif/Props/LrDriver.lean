import AidlVerif.Model.Lr

/-!
The LR driver of `Model/Lr.lean`, for all tables. Every piece of it returns a state and either something to go on with
or the outcome of the run (`Step`), and each fuel-bounded loop is its first piece followed by the rest (`*_succ`), so a
fact about pieces in sequence is proved once (`Holds.bind`). `Invariant P E` lists what each primitive move must do to a
predicate `P` indexed by the mode of the driver and to `E` on how a run ends; `parseLoop_ind` is the induction principle.
`Finished` says once what `add_content` makes of an outcome.
The three panics that depend on nothing but the driver are excluded in its proof: the `unwrap` in `recoverPush` because
the state `errorCandidate` finds can shift `error` (`errorCandidate_accepts`); the lookahead/column mismatch because the
two travel as one pair (`La`); a token found at EOF because `findState_ind` / `errorRecovery_ind` carry
`la = none → la' = none`.
-/

namespace Aidl.Props.LrDriver
open Aidl Aidl.Lr Aidl.Actions Aidl.Lexer

variable (T : Tables) (env : Env)

theorem asShift_ne_zero {a : Int} {t : Nat} (h : asShift a = some t) : a ≠ 0 := by
  unfold asShift at h; split at h <;> simp_all; omega

theorem asReduce_ne_zero {a : Int} {p : Nat} (h : asReduce a = some p) : a ≠ 0 := by
  unfold asReduce at h; split at h <;> simp_all; omega

theorem shift_or_reduce {a : Int} (h : a ≠ 0) : (asShift a).isSome = true ∨ (asReduce a).isSome = true := by
  unfold asShift asReduce
  rcases Int.lt_or_gt_of_ne h with h | h
  · exact Or.inr (by rw [if_pos h]; rfl)
  · exact Or.inl (by rw [if_pos h]; rfl)

theorem asShift_none_of_reduce {a : Int} {p : Nat} (h : asReduce a = some p) : asShift a = none := by
  unfold asReduce at h
  split at h
  · exact if_neg (by omega)
  · cases h

theorem actionAt_entry {q col : Nat} (h : actionAt T q col ≠ 0) :
    ∃ row, T.action[q]? = some row ∧ row[col]? = some (actionAt T q col) := by
  unfold actionAt at h ⊢
  cases hr : T.action[q]? with
  | none => simp [hr] at h
  | some row =>
    cases hc : row[col]? with
    | none => simp [hr, hc] at h
    | some a => exact ⟨row, rfl, by simp [hc]⟩

theorem topState_of_cons {s : St} {q : Nat} {σ : List Nat} (h : s.states = q :: σ) : topState s = q := by
  rw [topState, h]
  rfl

theorem errorCandidate_accepts {statesLen : Nat} {s : St} {col : Option Nat} {top : Nat}
    (h : errorCandidate T statesLen s col = some top) :
    top < statesLen ∧ ∃ errState n,
      asShift (errorAction T ((s.states.drop (statesLen - 1 - top)).headD 0)) = some errState
      ∧ accepts.loop T col (errState :: s.states.drop (statesLen - 1 - top)) n = some true := by
  unfold errorCandidate at h
  have hmem := List.mem_of_find?_eq_some h
  have hp := List.find?_some h
  refine ⟨by simpa using hmem, ?_⟩
  dsimp only at hp
  split at hp
  · rename_i e he
    -- `errorCandidate` gives `accepts` the bound `statesLen + 1024`, of which `accepts.loop` gets one less
    refine ⟨e, statesLen + 1023, he, ?_⟩
    have h1 : statesLen + 1024 = (statesLen + 1023) + 1 := by omega
    rw [h1] at hp
    unfold accepts at hp
    dsimp only at hp
    cases hacc : accepts.loop T col (e :: s.states.drop (statesLen - 1 - top)) (statesLen + 1023) with
    | none => rw [hacc] at hp; cases hp
    | some b => rw [hacc] at hp; cases b <;> simp_all
  · cases hp

/-- the result handling of `add_content`, case by case -/
inductive Finished (env : Env) (id : String) (s : St) : Outcome → Except Stop FileResult → Prop
  | driver (m : String) : Finished env id s (.panic m) (.error (.driver m))
  | action (p : Panic) : Finished env id s (.actionPanic p) (.error (.action p))
  | fuelOut : Finished env id s .fuelOut (.error .fuelOut)
  | none : Finished env id s (.accept .none_) (.ok { id, ast := none, diags := s.diags })
  | tree (a : AidlFile) : Finished env id s (.accept (.some_ (.aidl a))) (.ok { id, ast := some a, diags := s.diags })
  | shape (v : Val) : Finished env id s (.accept v) (.error .acceptShape)
  | errStop (e : ParseErr) (m : Panic) : ((fromParseError e).run env).run s.diags = .error m →
      Finished env id s (.error e) (.error (.action m))
  | err (e : ParseErr) (d : Diag) (ds : List Diag) : ((fromParseError e).run env).run s.diags = .ok (d, ds) →
      Finished env id s (.error e) (.ok { id, ast := none, diags := ds ++ [d] })

theorem finishE_finished {env : Env} {id : String} {s : St} {o : Outcome} {r : Except Stop FileResult}
    (h : finishE env id s o = r) : Finished env id s o r := by
  subst h
  unfold finishE
  cases o with
  | panic m => exact .driver m
  | actionPanic p => exact .action p
  | fuelOut => exact .fuelOut
  | accept v =>
    dsimp only
    split
    · exact .none
    · exact .tree _
    · exact .shape _
  | error e =>
    dsimp only
    cases hr : ((fromParseError e).run env).run s.diags with
    | error m => exact .errStop e m hr
    | ok x => exact .err e x.1 x.2 hr

theorem finishE_tree {id : String} {s : St} {o : Outcome} {r : FileResult} {a : AidlFile}
    (h : finishE env id s o = .ok r) (ha : r.ast = some a) : o = .accept (.some_ (.aidl a)) ∧ r.diags = s.diags := by
  cases finishE_finished h with
  | none => cases ha
  | tree a' => cases ha; exact ⟨rfl, rfl⟩
  | err e d ds _ => cases ha

end Aidl.Props.LrDriver

/-! `laAction` and `Stops` carry the namespace of the completeness theorems, whose statements name them; they stand
here because the equations below are stated with `laAction`, and because `LrRel.OrStop`, which imports this file and
not `LrComplete`, is stated with `Stops` (as are the driver facts of `LrCompleteDriver`). -/

namespace Aidl.Props.LrComplete
open Aidl Aidl.Lr
variable (T : Tables)

def laAction (q : Nat) : Option Nat → Int
  | some c => actionAt T q c
  | none => eofActionAt T q

def Stops : Outcome → Prop
  | .accept _ => False
  | .error _ => False
  | _ => True

end Aidl.Props.LrComplete

namespace Aidl.Props.LrDriver
open Aidl Aidl.Lr Aidl.Actions Aidl.Lexer Aidl.Props.LrComplete

variable (T : Tables) (env : Env)

/-- a lookahead token with its ACTION column; `none` at the end of the input -/
abbrev La := Option (Token × Nat)

/-- `parseInner` turns an accepting reduction into `extraToken` -/
def endOutcome : La → Outcome → Outcome
  | some (l, _), .accept _ => .error (.extraToken l)
  | _, o => o

theorem endOutcome_imp {E : Outcome → Prop} (la : La) {o : Outcome} (h : E o)
    (hx : ∀ l c v, la = some (l, c) → o = .accept v → E (.error (.extraToken l))) : E (endOutcome la o) := by
  cases la with
  | none => exact h
  | some lc =>
    cases o with
    | accept v => exact hx lc.1 lc.2 v rfl rfl
    | _ => exact h

/-- the state `recoverPush` leaves when its `unwrap` succeeds (`recoverPush_eq`) -/
def pushed (error : ParseErr) (s : St) (top : Nat) (la : Option Token) (dropped : List Token) (errState : Nat) : St :=
  let n := s.states.length
  let start := recoverStart s top dropped
  { s with states := errState :: s.states.drop (n - 1 - top), recovered := true,
           syms := { start, id := T.ncols - 1, name := "error", val := .recovery error dropped,
                     stop := recoverStop n s top la dropped start } :: (s.syms.reverse.take top).reverse }

/-- the state the shift branch of `parseInner` leaves (`parseInner_succ`) -/
def shifted (s : St) (la : Token) (col target : Nat) : St :=
  { s with states := target :: s.states, hist := s.hist ++ [col],
           syms := { start := la.start, id := col, name := T.terminals[col]?.getD "?", val := .tok la.text,
                     stop := la.stop, toks := [col] } :: s.syms }

theorem accepts_loop_succ (col : Option Nat) (states : List Nat) (n : Nat) :
    accepts.loop T col states (n + 1) =
      if laAction T (states.headD 0) col = 0 then some false
      else match asReduce (laAction T (states.headD 0) col) with
        | some r =>
          match T.prods[r]? with
          | none => none
          | some prod =>
            if prod.accept then some true
            else accepts.loop T col (gotoOf T ((states.drop prod.pops).headD 0) prod.nt :: states.drop prod.pops) n
        | none => some true := by
  cases col <;> rfl

/-! The pieces of the model return four different types; `ofRed`, `ofNext`, `ofFind`, `ofEnd` read each of
them as a `Step`. -/

abbrev Step (α : Type) := St × Sum α Outcome

def Step.bind {α β : Type} (r : Step α) (k : St → α → Step β) : Step β :=
  match r with
  | (s, .inl a) => k s a
  | (s, .inr o) => (s, .inr o)

def Step.mapEnd {α : Type} (g : Outcome → Outcome) (r : Step α) : Step α :=
  match r with
  | (s, .inl a) => (s, .inl a)
  | (s, .inr o) => (s, .inr (g o))

def ofRed : St × Option Outcome → Step Unit
  | (s, none) => (s, .inl ())
  | (s, some o) => (s, .inr o)

def ofNext : St × NextToken → Step La
  | (s, .found t c) => (s, .inl (some (t, c)))
  | (s, .eof) => (s, .inl none)
  | (s, .done o) => (s, .inr o)

/-- what `findState` hands on: the candidate, the lookahead with its column, the dropped tokens -/
abbrev Found := Nat × Option Token × Option Nat × List Token

/-- `findState` never answers `.inl (.found ..)` or `.inl .eof` (`findState_shape`) -/
def ofFind : St × Sum NextToken Found → Step Found
  | (s, .inr x) => (s, .inl x)
  | (s, .inl (.done o)) => (s, .inr o)
  | (s, .inl _) => (s, .inr .fuelOut)

def ofEnd {α : Type} (r : St × Outcome) : Step α := (r.1, .inr r.2)

theorem reduceOnError_succ (la : Option Token) (s : St) (f : Nat) :
    ofRed (reduceOnError T env la s (f + 1)) =
      match asReduce (errorAction T (topState s)) with
      | some r => (ofRed (reduce T env s r (la.map (·.start)))).bind fun s _ => ofRed (reduceOnError T env la s f)
      | none => (s, .inl ()) := by
  conv => lhs; unfold reduceOnError
  cases asReduce (errorAction T (topState s)) with
  | none => rfl
  | some r =>
    dsimp only
    cases reduce T env s r (la.map (·.start)) with
    | mk s' oo => cases oo <;> rfl

theorem findState_shape (error : ParseErr) (n : Nat) :
    ∀ (f : Nat) (s : St) (la : Option Token) (col : Option Nat) (dropped : List Token),
      match findState T error n s la col dropped f with
      | (_, .inl (.done _)) => True
      | (_, .inl _) => False
      | (_, .inr _) => True := by
  intro f
  induction f with
  | zero => intro s la col dropped; unfold findState; trivial
  | succ f ih =>
    intro s la col dropped
    unfold findState
    cases errorCandidate T n s col with
    | some top => trivial
    | none =>
      dsimp only
      cases la with
      | none => trivial
      | some l =>
        dsimp only
        cases nextToken T s with
        | mk s' r =>
          cases r with
          | found t c => exact ih _ _ _ _
          | eof => exact ih _ _ _ _
          | done o => trivial

theorem findState_succ (error : ParseErr) (n : Nat) (s : St) (la : Option Token) (col : Option Nat)
    (dropped : List Token) (f : Nat) :
    ofFind (findState T error n s la col dropped (f + 1)) =
      match errorCandidate T n s col with
      | some top => (s, .inl (top, la, col, dropped))
      | none =>
        match la with
        | none => (s, .inr (.error error))
        | some l => (ofNext (nextToken T s)).bind fun s la' =>
            ofFind (findState T error n s (la'.map (·.1)) (la'.map (·.2)) (dropped ++ [l]) f) := by
  conv => lhs; unfold findState
  cases errorCandidate T n s col with
  | some top => rfl
  | none =>
    cases la with
    | none => rfl
    | some l =>
      dsimp only
      cases nextToken T s with
      | mk s' r => cases r <;> rfl

theorem errorRecovery_eq (s : St) (la : Option Token) (col : Option Nat) (f : Nat) :
    ofNext (errorRecovery T env s la col f) =
      (ofRed (reduceOnError T env la s f)).bind fun s1 _ =>
        (ofFind (findState T (unrecognized T s la) s1.states.length s1 la col [] f)).bind fun s2 x =>
          ofNext (recoverPush T (unrecognized T s la) s1.states.length s2 x.1 x.2.1 x.2.2.1 x.2.2.2) := by
  unfold errorRecovery
  dsimp only
  cases reduceOnError T env la s f with
  | mk s1 oo =>
    cases oo with
    | some o => rfl
    | none =>
      have hs := findState_shape T (unrecognized T s la) s1.states.length f s1 la col []
      revert hs
      dsimp only [ofRed, Step.bind]
      cases findState T (unrecognized T s la) s1.states.length s1 la col [] f with
      | mk s2 x =>
        cases x with
        | inr y => exact fun _ => rfl
        | inl nt =>
          cases nt with
          | done o => exact fun _ => rfl
          | found _ _ => exact False.elim
          | eof => exact False.elim

theorem parseEof_succ (s : St) (f : Nat) :
    ofEnd (α := Empty) (parseEof T env s (f + 1)) =
      match asReduce (eofActionAt T (topState s)) with
      | some r => (ofRed (reduce T env s r none)).bind fun s _ => ofEnd (parseEof T env s f)
      | none => (ofNext (errorRecovery T env s none none f)).bind fun s la =>
          match la with
          | some _ => (s, .inr (.panic "cannot find token at EOF"))
          | none => ofEnd (parseEof T env s f) := by
  conv => lhs; unfold parseEof
  cases asReduce (eofActionAt T (topState s)) with
  | some r =>
    dsimp only
    cases reduce T env s r none with
    | mk s' oo => cases oo <;> rfl
  | none =>
    dsimp only
    cases errorRecovery T env s none none f with
    | mk s' x => cases x <;> rfl

theorem parseInner_succ (s : St) (l : Token) (c : Nat) (f : Nat) :
    parseInner T env s l c (f + 1) =
      match asShift (actionAt T (topState s) c) with
      | some target => (shifted T s l c target, .inl ())
      | none =>
        match asReduce (actionAt T (topState s) c) with
        | some r => ((ofRed (reduce T env s r (some l.start))).mapEnd (endOutcome (some (l, c)))).bind fun s _ =>
            parseInner T env s l c f
        | none => (ofNext (errorRecovery T env s (some l) (some c) f)).bind fun s la =>
            match la with
            | some (l', c') => parseInner T env s l' c' f
            | none => ofEnd (parseEof T env s f) := by
  conv => lhs; unfold parseInner
  dsimp only
  cases asShift (actionAt T (topState s) c) with
  | some target => rfl
  | none =>
    cases asReduce (actionAt T (topState s) c) with
    | some r =>
      dsimp only
      cases reduce T env s r (some l.start) with
      | mk s' oo =>
        cases oo with
        | none => rfl
        | some o => cases o <;> rfl
    | none =>
      dsimp only
      cases errorRecovery T env s (some l) (some c) f with
      | mk s' x => cases x <;> rfl

theorem parseLoop_succ (s : St) (f : Nat) :
    ofEnd (α := Empty) (parseLoop T env s (f + 1)) =
      (ofNext (nextToken T s)).bind fun s la =>
        match la with
        | none => ofEnd (parseEof T env s f)
        | some (l, c) => Step.bind (parseInner T env s l c f) fun s _ => ofEnd (parseLoop T env s f) := by
  conv => lhs; unfold parseLoop
  cases nextToken T s with
  | mk s' x =>
    cases x with
    | eof => rfl
    | done o => rfl
    | found l c =>
      dsimp only [ofNext, Step.bind]
      cases parseInner T env s' l c f with
      | mk s'' y =>
        cases y with
        | inl u => rfl
        | inr o => rfl

/-- `recoverPush` when the `unwrap` succeeds -/
theorem recoverPush_eq (e : ParseErr) (s : St) (top : Nat) (la : Option Token) (col : Option Nat) (d : List Token)
    (errState : Nat)
    (hsh : asShift (errorAction T ((s.states.drop (s.states.length - 1 - top)).headD 0)) = some errState) :
    recoverPush T e s.states.length s top la col d =
      (pushed T e s top la d errState,
        match la, col with
        | some l, some c => .found l c
        | none, none => .eof
        | _, _ => .done (.panic "lookahead and token_index mismatched")) := by
  unfold recoverPush
  dsimp only
  rw [hsh]
  cases la <;> cases col <;> rfl

def Holds {α : Type} (P : St → α → Prop) (E : St → Outcome → Prop) : Step α → Prop
  | (s, .inl a) => P s a
  | (s, .inr o) => E s o

section
variable {α β : Type} {P P' : St → α → Prop} {Q : St → β → Prop} {E E' : St → Outcome → Prop} {r : Step α}

theorem Holds.bind {k : St → α → Step β} (h : Holds P E r) (hk : ∀ s a, P s a → Holds Q E (k s a)) :
    Holds Q E (r.bind k) := by
  obtain ⟨s, x⟩ := r
  cases x with
  | inl a => exact hk s a h
  | inr o => exact h

theorem Holds.imp (h : Holds P E r) (hP : ∀ s a, P s a → P' s a) (hE : ∀ s o, E s o → E' s o) : Holds P' E' r := by
  obtain ⟨s, x⟩ := r
  cases x with
  | inl a => exact hP s a h
  | inr o => exact hE s o h

theorem Holds.mapEnd {g : Outcome → Outcome} (h : Holds P (fun s o => E s (g o)) r) : Holds P E (r.mapEnd g) := by
  obtain ⟨s, x⟩ := r
  cases x with
  | inl a => exact h
  | inr o => exact h

end

theorem nextToken_ends (s : St) : Holds (fun _ _ => True) (fun _ o => ∃ e, o = .error e) (ofNext (nextToken T s)) := by
  unfold nextToken
  split
  · trivial
  · exact ⟨_, rfl⟩
  · split
    · trivial
    · exact ⟨_, rfl⟩

theorem Holds.nextToken_states {P : St → La → Prop} {E : St → Outcome → Prop} {s : St}
    (h : Holds P E (ofNext (nextToken T s))) :
    Holds (fun s' la => P s' la ∧ s'.states = s.states) E (ofNext (nextToken T s)) := by
  revert h
  unfold nextToken
  split
  · exact fun h => ⟨h, rfl⟩
  · exact id
  · split
    · exact fun h => ⟨h, rfl⟩
    · exact id

/-- about to read a token; holding a lookahead; inside `error_recovery` -/
inductive Mode
  | read
  | look (la : La)
  | recover (error : ParseErr) (dropped : List Token) (la : La)

structure Invariant (P : Mode → St → Prop) (E : St → Outcome → Prop) : Prop where
  fuel : ∀ m s, P m s → E s .fuelOut
  lex : ∀ s, P .read s → Holds (fun s' la => P (.look la) s') E (ofNext (nextToken T s))
  shift : ∀ s l c target, P (.look (some (l, c))) s → asShift (actionAt T (topState s) c) = some target →
    P .read (shifted T s l c target)
  reduce : ∀ s la r, P (.look la) s → asReduce (laAction T (topState s) (la.map (·.2))) = some r →
    Holds (fun s' _ => P (.look la) s') (fun s' o => E s' (endOutcome la o)) (ofRed (reduce T env s r (la.map (·.1.start))))
  enter : ∀ s la, P (.look la) s → P (.recover (unrecognized T s (la.map (·.1))) [] la) s
  reduceErr : ∀ s e la r, P (.recover e [] la) s → asReduce (errorAction T (topState s)) = some r →
    Holds (fun s' _ => P (.recover e [] la) s') E (ofRed (Lr.reduce T env s r (la.map (·.1.start))))
  drop : ∀ s e d l c, P (.recover e d (some (l, c))) s →
    Holds (fun s' la => P (.recover e (d ++ [l]) la) s') E (ofNext (nextToken T s))
  giveUp : ∀ s e d, P (.recover e d none) s → E s (.error e)
  push : ∀ s e d la top errState, P (.recover e d la) s → top < s.states.length →
    asShift (errorAction T ((s.states.drop (s.states.length - 1 - top)).headD 0)) = some errState →
    P (.look la) (pushed T e s top (la.map (·.1)) d errState)

variable {T env} {P : Mode → St → Prop} {E : St → Outcome → Prop}

theorem reduceOnError_ind (I : Invariant T env P E) (e : ParseErr) (la : La) :
    ∀ (fuel : Nat) (s : St), P (.recover e [] la) s →
      Holds (fun s' _ => P (.recover e [] la) s') E (ofRed (reduceOnError T env (la.map (·.1)) s fuel)) := by
  intro fuel
  induction fuel with
  | zero => intro s h; exact I.fuel _ _ h
  | succ f ih =>
    intro s h
    rw [reduceOnError_succ]
    cases hr : asReduce (errorAction T (topState s)) with
    | none => exact h
    | some r =>
      rw [Option.map_map]
      exact (I.reduceErr s e la r h hr).bind fun s' _ h' => ih s' h'

theorem findState_ind (I : Invariant T env P E) (e : ParseErr) (n : Nat) :
    ∀ (fuel : Nat) (s : St) (la : La) (d : List Token), P (.recover e d la) s → s.states.length = n →
      Holds (fun s' (x : Found) => ∃ la' : La, x.2.1 = la'.map (·.1) ∧ x.2.2.1 = la'.map (·.2) ∧ (la = none → la' = none)
          ∧ P (.recover e x.2.2.2 la') s' ∧ s'.states.length = n ∧ errorCandidate T n s' x.2.2.1 = some x.1) E
        (ofFind (findState T e n s (la.map (·.1)) (la.map (·.2)) d fuel)) := by
  intro fuel
  induction fuel with
  | zero => intro s la d h _; exact I.fuel _ _ h
  | succ f ih =>
    intro s la d h hn
    rw [findState_succ]
    cases hc : errorCandidate T n s (la.map (·.2)) with
    | some top => exact ⟨la, rfl, rfl, id, h, hn, hc⟩
    | none =>
      cases la with
      | none => exact I.giveUp _ _ _ h
      | some lc =>
        refine (I.drop s e d lc.1 lc.2 h).nextToken_states.bind fun s1 la' h1 => ?_
        refine (ih s1 la' (d ++ [lc.1]) h1.1 (by rw [h1.2, hn])).imp ?_ (fun _ _ hE => hE)
        rintro s' x ⟨la'', h2, h3, _, h4⟩
        exact ⟨la'', h2, h3, nofun, h4⟩

theorem errorRecovery_ind (I : Invariant T env P E) (s : St) (la : La) (fuel : Nat) (h : P (.look la) s) :
    Holds (fun s' la' => (la = none → la' = none) ∧ P (.look la') s') E
      (ofNext (errorRecovery T env s (la.map (·.1)) (la.map (·.2)) fuel)) := by
  rw [errorRecovery_eq]
  refine (reduceOnError_ind I _ la fuel s (I.enter s la h)).bind fun s1 _ h1 => ?_
  refine (findState_ind I _ _ fuel s1 la [] h1 rfl).bind fun s2 x hx => ?_
  obtain ⟨top, tok, col, d'⟩ := x
  obtain ⟨la', rfl, rfl, hnone, hp, hlen, hcand⟩ := hx
  dsimp only at hp hcand ⊢
  obtain ⟨htop, errState, _, hsh, _⟩ := errorCandidate_accepts T hcand
  rw [← hlen] at htop hsh ⊢
  rw [recoverPush_eq T _ _ _ _ _ _ _ hsh]
  have hpush := I.push s2 _ d' la' top errState hp htop hsh
  cases la' with
  | none => exact And.intro (fun _ => rfl) hpush
  | some lc => exact And.intro (fun hla => nomatch hnone hla) hpush

theorem parseEof_ind (I : Invariant T env P E) :
    ∀ (fuel : Nat) (s : St), P (.look none) s → E (parseEof T env s fuel).1 (parseEof T env s fuel).2 := by
  intro fuel
  induction fuel with
  | zero => intro s h; exact I.fuel _ _ h
  | succ f ih =>
    intro s h
    show Holds (α := Empty) (fun _ _ => True) E (ofEnd (parseEof T env s (f + 1)))
    rw [parseEof_succ]
    cases hr : asReduce (eofActionAt T (topState s)) with
    | some r => exact (I.reduce s none r h hr).bind fun s' _ h' => ih s' h'
    | none =>
      refine (errorRecovery_ind I s none f h).bind fun s' la' h' => ?_
      cases h'.1 rfl
      exact ih s' h'.2

theorem parseInner_ind (I : Invariant T env P E) :
    ∀ (fuel : Nat) (s : St) (l : Token) (c : Nat), P (.look (some (l, c))) s →
      Holds (fun s' _ => P .read s') E (parseInner T env s l c fuel) := by
  intro fuel
  induction fuel with
  | zero => intro s l c h; exact I.fuel _ _ h
  | succ f ih =>
    intro s l c h
    rw [parseInner_succ]
    cases hs : asShift (actionAt T (topState s) c) with
    | some target => exact I.shift s l c target h hs
    | none =>
      cases hr : asReduce (actionAt T (topState s) c) with
      | some r => exact (I.reduce s (some (l, c)) r h hr).mapEnd.bind fun s' _ h' => ih s' l c h'
      | none =>
        refine (errorRecovery_ind I s (some (l, c)) f h).bind fun s' la' h' => ?_
        cases la' with
        | some lc => exact ih s' lc.1 lc.2 h'.2
        | none => exact parseEof_ind I f s' h'.2

theorem parseLoop_ind (I : Invariant T env P E) :
    ∀ (fuel : Nat) (s : St), P .read s → E (parseLoop T env s fuel).1 (parseLoop T env s fuel).2 := by
  intro fuel
  induction fuel with
  | zero => intro s h; exact I.fuel _ _ h
  | succ f ih =>
    intro s h
    show Holds (α := Empty) (fun _ _ => True) E (ofEnd (parseLoop T env s (f + 1)))
    rw [parseLoop_succ]
    refine (I.lex s h).bind fun s' la h' => ?_
    cases la with
    | none => exact parseEof_ind I f s' h'
    | some lc => exact (parseInner_ind I f s' lc.1 lc.2 h').bind fun s'' _ h'' => ih s'' h''

/-! Invariants that say one thing (`A`) of the state, another (`L`) of the lookahead and a third (`R`) of the error and
the dropped tokens. -/

def Parts (L : Token → Nat → Prop) (R : ParseErr → List Token → Prop) : Mode → Prop
  | .read => True
  | .look la => ∀ x ∈ la, L x.1 x.2
  | .recover e d la => R e d ∧ ∀ x ∈ la, L x.1 x.2

theorem Invariant.of_parts {A : St → Prop} {L : Token → Nat → Prop} {R : ParseErr → List Token → Prop}
    (fuel : ∀ s, A s → E s .fuelOut)
    (lex : ∀ s, A s → Holds (fun s' la => A s' ∧ ∀ x ∈ la, L x.1 x.2) E (ofNext (nextToken T s)))
    (shift : ∀ s l c target, A s → L l c → asShift (actionAt T (topState s) c) = some target → A (shifted T s l c target))
    (reduce : ∀ s (la : La) r, A s → (∀ x ∈ la, L x.1 x.2) →
      asReduce (laAction T (topState s) (la.map (·.2))) = some r ∨ asReduce (errorAction T (topState s)) = some r →
      Holds (fun s' _ => A s') E (ofRed (Lr.reduce T env s r (la.map (·.1.start)))))
    (extra : ∀ s l c v, L l c → E s (.accept v) → E s (.error (.extraToken l)))
    (enter : ∀ s (la : La), A s → (∀ x ∈ la, L x.1 x.2) → R (unrecognized T s (la.map (·.1))) [])
    (drop : ∀ e d l c, R e d → L l c → R e (d ++ [l]))
    (giveUp : ∀ s e d, A s → R e d → E s (.error e))
    (push : ∀ s e d (la : La) top errState, A s → R e d → (∀ x ∈ la, L x.1 x.2) → top < s.states.length →
      asShift (errorAction T ((s.states.drop (s.states.length - 1 - top)).headD 0)) = some errState →
      A (pushed T e s top (la.map (·.1)) d errState)) :
    Invariant T env (fun m s => A s ∧ Parts L R m) E where
  fuel _ s h := fuel s h.1
  lex s h := lex s h.1
  shift s l c target h hs := ⟨shift s l c target h.1 (h.2 _ rfl) hs, trivial⟩
  reduce s la r h hr :=
    (reduce s la r h.1 h.2 (Or.inl hr)).imp (fun s' _ h' => ⟨h', h.2⟩) fun s' _ ho =>
      endOutcome_imp (E := E s') la ho fun _ _ _ hla ho' => extra _ _ _ _ (h.2 _ hla) (ho' ▸ ho)
  enter s la h := ⟨h.1, enter s la h.1 h.2, h.2⟩
  reduceErr s e la r h hr :=
    (reduce s la r h.1 h.2.2 (Or.inr hr)).imp (fun s' _ h' => ⟨h', h.2⟩) fun _ _ ho => ho
  drop s e d l c h :=
    (lex s h.1).imp (fun s' la h' => ⟨h'.1, drop e d l c h.2.1 (h.2.2 _ rfl), h'.2⟩) fun _ _ ho => ho
  giveUp s e d h := giveUp s e d h.1 h.2.1
  push s e d la top errState h htop hsh := ⟨push s e d la top errState h.1 h.2.1 h.2.2 htop hsh, h.2.2⟩

theorem parseLoop_parts {A : St → Prop} {L : Token → Nat → Prop} {R : ParseErr → List Token → Prop}
    (I : Invariant T env (fun m s => A s ∧ Parts L R m) E) (fuel : Nat) (s : St) (h : A s) :
    E (parseLoop T env s fuel).1 (parseLoop T env s fuel).2 :=
  parseLoop_ind I fuel s ⟨h, trivial⟩

end Aidl.Props.LrDriver
