import AidlVerif.Spec.C07
import AidlVerif.Lemmas.Validate

namespace Aidl.Props.C07
open Aidl Aidl.Spec Aidl.Spec.C07

/-- the specification's rule, per requirement class of `get_requirement_for_arg_direction` -/
def reqBroken : Requirement → Dir → Bool
  | .directionRequired _, d => d == .none
  | .canOnlyBeInOrUnspecified _, d => d == .out || d == .inout
  | .canOnlyBeInOrInOut _, d => d == .none || d == .out
  | .cannotBeAnArg _, _ => true
  | .noRequirement, _ => false

/-- finite: the 17 kinds fall into the code's five classes as the specification's table says -/
theorem typeRule_req (k : TypeKind) (d : Dir) :
    typeRuleBroken (Category.of k) d = reqBroken (requirementFor k) d := by
  cases k with
  | android a => cases a <;> rfl
  | resolved key r => cases r <;> rfl
  | _ => rfl

/-- `check_method_args` pushes, for one argument, exactly the number of diagnostics the statement
    calls for; all of them are Errors and all sit on the direction keyword (or on the empty range
    at the start of the type). -/
theorem arg_rule (ow : Bool) (a : Arg) :
    (checkMethodArg ow a).length = expectedCount (Category.of a.argType.kind) (dirOf a.direction) ow
    ∧ ∀ d ∈ checkMethodArg ow a, d.kind = .error ∧ d.range = argDirectionRange a := by
  unfold checkMethodArg expectedCount
  rw [typeRule_req]
  generalize requirementFor a.argType.kind = req
  generalize argDirectionRange a = r
  generalize a.direction = dir
  cases req <;> cases dir <;> cases ow <;>
    simp [reqBroken, onewayRuleBroken, dirOf, mkDiag, Direction.isUnspecified, Direction.isIn,
      Direction.isOut, Direction.isInOut]


theorem errorsAt_append (a b : List Diag) (r : Range) : errorsAt (a ++ b) r = errorsAt a r + errorsAt b r := by
  simp [errorsAt, List.countP_append]

theorem errorsAt_arg (ow : Bool) (a : Arg) (r : Range) :
    errorsAt (checkMethodArg ow a) r =
      if argDirectionRange a = r then expectedCount (Category.of a.argType.kind) (dirOf a.direction) ow else 0 := by
  have h := arg_rule ow a
  unfold errorsAt
  split
  · rename_i heq
    rw [← h.1]
    apply List.countP_eq_length.mpr
    intro d hd
    have := h.2 d hd
    simp [this.1, this.2, heq]
  · rename_i hne
    apply List.countP_eq_zero.mpr
    intro d hd
    have := h.2 d hd
    simp [this.2, hne]

theorem errorsAt_argDiags (ast : AidlFile) (r : Range)
    (how : ∀ m ∈ methodsOf ast, interfaceOneway ast = true → m.oneway = true) :
    errorsAt (argDiags ast) r = expectedAt ast r := by
  unfold argDiags expectedAt argsOf
  generalize hms : methodsOf ast = ms at how
  clear hms
  induction ms with
  | nil => simp [errorsAt]
  | cons m ms ih =>
    have how' : ∀ m' ∈ ms, interfaceOneway ast = true → m'.oneway = true :=
      fun m' hm' => how m' (List.mem_cons_of_mem _ hm')
    simp only [List.flatMap_cons, errorsAt_append, List.filter_append, List.map_append, List.sum_append]
    rw [ih how']
    congr 1
    have hm : (m.oneway || interfaceOneway ast) = m.oneway := by
      cases hi : interfaceOneway ast
      · simp
      · simp [how m (List.mem_cons_self ..) hi]
    unfold checkMethodArgs
    generalize m.args = as
    induction as with
    | nil => simp [errorsAt]
    | cons a as iha =>
      simp only [List.flatMap_cons, errorsAt_append, List.map_cons, List.filter_cons, errorsAt_arg]
      split
      · rename_i heq
        simp [heq, hm, iha]
      · rename_i hne
        simp [hne, iha]

/-- No diagnostic other than the argument-direction ones is an Error sitting on an argument's
    direction range. (Not proved of parser output, where ranges of distinct constructs are
    distinct; decidable, evaluated by the harness on every case.) -/
def Fresh (g : Groups) (ids : List Diag) : Prop :=
  ∀ d ∈ g.othersThanArgs ids, d.kind = .error → ∀ p ∈ argsOf g.ast, d.range ≠ argDirectionRange p.2

instance (g : Groups) (ids : List Diag) : Decidable (Fresh g ids) := by unfold Fresh; infer_instance

/-- **C07 for the model.** In the result of validating any file, under any hash order and any
    set of defined keys, every argument of every method carries exactly the number of Errors the
    statement calls for on its direction range. -/
theorem holds (ho : HashOrder) (defined : Defined) (fr out : FileResult)
    (h : validateFile ho defined fr = .ok out)
    (fresh : ∀ ast g ids, fr.ast = some ast → validateGroups ho defined fr.diags ast = .ok g →
      idDiagsLoop {} (methodsOf g.ast) = .ok ids → Fresh g ids) :
    holdsFile out = true := by
  obtain ⟨hast, rfl⟩ | ⟨ast, g, hast, hg, rfl⟩ := validateFile_eq_ok h
  · simp [holdsFile, hast]
  have V := validated hg
  obtain ⟨ids, hids, hperm, -⟩ := groups_perm V.methods_ok
  simp only [holdsFile, List.all_eq_true, beq_iff_eq]
  intro p hp
  rw [errorsAt, countP_group hperm fun d hd => by simpa using fun hk => fresh ast g ids hast hg hids d hd hk p hp]
  refine errorsAt_argDiags _ _ ?_
  rw [V.ast_eq]
  exact setUpOneway_all_oneway _

/-- non-vacuity: a concrete argument for which both rules are broken (`out int` in a oneway method) -/
example :
    let r : Range := ⟨⟨10, 1, 11⟩, ⟨13, 1, 14⟩⟩
    let a : Arg := { direction := .out r, name := some "x",
                     argType := .mk "int" .primitive [] ⟨⟨14, 1, 15⟩, ⟨17, 1, 18⟩⟩ ⟨⟨14, 1, 15⟩, ⟨17, 1, 18⟩⟩,
                     annotations := [], doc := none, sym := default, full := default }
    (checkMethodArg true a).length = 2 ∧ expectedCount .primitive .out true = 2 := by
  decide

end Aidl.Props.C07
