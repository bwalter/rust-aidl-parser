import AidlVerif.Spec.C16
import AidlVerif.Props.C15

/-! C16, about the model of traverse.rs (`Model/Traverse`). -/

namespace Aidl.Props.C16
open Aidl Aidl.Spec Aidl.Spec.C15 Aidl.Spec.C16

/-- the four early returns of `range_contains` are the two-sided lexicographic comparison -/
theorem contains_iff (r : Range) (lc : Nat × Nat) : rangeContains r lc = contains r lc := by
  unfold rangeContains contains lcLe
  rw [Bool.eq_iff_iff]
  simp only [Bool.and_eq_true, Bool.or_eq_true, decide_eq_true_eq, beq_iff_eq]
  -- each early return refutes one side of the comparison
  repeat' split
  all_goals simp only [Bool.false_eq_true, false_iff, true_iff]
  all_goals omega

/-- **Position lookup returns the first visited symbol whose range contains the position**, or
    nothing when there is none — for every tree, filter level and position -/
theorem find_at_eq (ast : AidlFile) (filter : SymbolFilter) (lc : Nat × Nat) :
    findSymbolAtLineCol ast filter lc = expected filter ast lc := by
  unfold findSymbolAtLineCol expected
  rw [Props.C15.find_pure]
  congr 1
  funext s
  exact contains_iff _ _

theorem found_contains (ast : AidlFile) (filter : SymbolFilter) (lc : Nat × Nat) (s : Symbol)
    (h : findSymbolAtLineCol ast filter lc = some s) : contains s.range lc = true := by
  rw [find_at_eq] at h
  unfold expected at h
  exact List.find?_some (p := fun (s : Symbol) => contains s.range lc) h

theorem point_inside_finds (ast : AidlFile) (filter : SymbolFilter) (lc : Nat × Nat) (s : Symbol)
    (hs : s ∈ symbols filter ast) (hc : contains s.range lc = true) :
    ∃ s', findSymbolAtLineCol ast filter lc = some s' ∧ contains s'.range lc = true := by
  cases hf : findSymbolAtLineCol ast filter lc with
  | some s' => exact ⟨s', rfl, found_contains ast filter lc s' hf⟩
  | none =>
    rw [find_at_eq] at hf
    simpa [hc] using List.find?_eq_none.mp hf s hs

theorem nothing_outside (ast : AidlFile) (filter : SymbolFilter) (lc : Nat × Nat)
    (h : ∀ s ∈ symbols filter ast, contains s.range lc = false) :
    findSymbolAtLineCol ast filter lc = none := by
  rw [find_at_eq]
  unfold expected
  apply List.find?_eq_none.mpr
  intro s hs
  simp [h s hs]

/-- With a line/column lookup that is monotone in the offset (`mono`, checked by the harness
    for every generated text), every offset from the first character of a symbol's range through
    the position just after its last character is a position that the range contains. -/
theorem offsets_inside (pos : Nat → Nat × Nat)
    (mono : ∀ a b, a ≤ b → lcLe (pos a) (pos b) = true)
    (r : Range) (hs : (r.start.line, r.start.col) = pos r.start.off) (he : (r.stop.line, r.stop.col) = pos r.stop.off)
    (o : Nat) (h1 : r.start.off ≤ o) (h2 : o ≤ r.stop.off) : contains r (pos o) = true := by
  unfold contains
  rw [hs, he, mono _ _ h1, mono _ _ h2]
  rfl

end Aidl.Props.C16
