import AidlVerif.Props.LexerBounds

/-!
C02 — well-formed documents yield a tree that mirrors the source, whatever the layout.

Proved about the model: layout independence for every pair of texts (`C02Layout.layout_independent`; stated on the
texts alone in `LexSpec.relayout_same_tree`). Here, one step of the lexer loop: a non-empty match of a skip entry
(whitespace, comments) produces no token, the scan goes on behind it.

NOT proved: that the tree of a well-formed document is the MIRROR of the document. The expected position-erased tree
comes from the document generator in one reference layout (compared per run, with the exact correspondence model
parser == implementation); layout independence carries it to every other layout.
-/

namespace Aidl.Props.C02
open Aidl Aidl.Lexer Aidl.Regex Aidl.Props.LexerBounds

theorem skip_does_not_reach_parser (table : LexTable) (fuel : Nat) (s : List Char) (p len i : Nat)
    (hs : s ≠ []) (hb : bestMatch table (fuel + 1) s p = some (len, i)) (hskip : table[i]!.2 = true) (hlen : len ≠ 0) :
    Lexer.next table (fuel + 1) s p = Lexer.next table fuel (splitBytes len s).2 (p + len) := by
  obtain ⟨_, ⟨pre, post, rfl, rfl, _, _⟩, _⟩ := bestMatch_some hb
  rw [next_step hs hb, if_pos hskip, if_neg hlen, splitBytes_prefix]

end Aidl.Props.C02
