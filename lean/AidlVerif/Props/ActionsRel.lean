import AidlVerif.Props.Erase
import AidlVerif.Lemmas.RunM

/-!
The actions do not look at positions. `Rel2 e1 e2 x1 x2 Q` relates the results of two runs that both return (a run that
stops is not constrained: the totality theorems deal with stops); `userAction_rel`: arguments equal after erasure
(`erArgV`) give values equal after erasure, whatever the two environments (texts, line/column lookups) and diagnostics.
`EvalRel` and `LrRel` carry `Rel2` on to the interpreter and to the driver, in this namespace: `tools/props.py` audits
`Aidl.Props.Rel.evalAction_rel`, `Aidl.Props.Rel.parseLoop_rel` and `Aidl.Props.Rel.addContent_layout_gen`.
-/

namespace Aidl.Props.Rel
open Aidl Aidl.Actions Aidl.Lexer Aidl.Erase Aidl.Props.PL

variable {e1 e2 : Env}

def Rel2 {α} (e1 e2 : Env) (x1 x2 : M α) (Q : α → α → Prop) : Prop :=
  ∀ ds1 ds2, match runM x1 e1 ds1, runM x2 e2 ds2 with
    | .ok (a1, _), .ok (a2, _) => Q a1 a2
    | _, _ => True

theorem rel2_iff {α} {x1 x2 : M α} {Q : α → α → Prop} :
    Rel2 e1 e2 x1 x2 Q ↔
      ∀ ds1 ds2 a1 d1 a2 d2, runM x1 e1 ds1 = .ok (a1, d1) → runM x2 e2 ds2 = .ok (a2, d2) → Q a1 a2 := by
  constructor
  · intro h ds1 ds2 a1 d1 a2 d2 h1 h2
    have := h ds1 ds2
    rw [h1, h2] at this
    exact this
  · intro h ds1 ds2
    split
    · exact h _ _ _ _ _ _ ‹_› ‹_›
    · trivial

theorem Rel2.pure {α} {Q : α → α → Prop} (a1 a2 : α) (h : Q a1 a2) : Rel2 e1 e2 (pure a1 : M α) (pure a2) Q :=
  fun _ _ => h

theorem rel_any {α} (x1 x2 : M α) : Rel2 e1 e2 x1 x2 (fun _ _ => True) :=
  rel2_iff.mpr fun _ _ _ _ _ _ _ _ => trivial

theorem Rel2.bad_left {α} {Q : α → α → Prop} (k : PanicKind) (m : String) (x2 : M α) : Rel2 e1 e2 (bad k m : M α) x2 Q :=
  fun _ _ => trivial

theorem Rel2.bad_right {α} {Q : α → α → Prop} (k : PanicKind) (m : String) (x1 : M α) : Rel2 e1 e2 x1 (bad k m : M α) Q :=
  rel2_iff.mpr fun _ _ _ _ _ _ _ h => nomatch (runM_bad ..).symm.trans h

theorem Rel2.bind {α β} {P : α → α → Prop} {Q : β → β → Prop} {x1 x2 : M α} {f1 f2 : α → M β}
    (hx : Rel2 e1 e2 x1 x2 P) (hf : ∀ a1 a2, P a1 a2 → Rel2 e1 e2 (f1 a1) (f2 a2) Q) :
    Rel2 e1 e2 (x1 >>= f1) (x2 >>= f2) Q :=
  rel2_iff.mpr fun _ _ _ _ _ _ h1 h2 => by
    obtain ⟨a1, c1, hx1, hf1⟩ := runM_bind_ok h1
    obtain ⟨a2, c2, hx2, hf2⟩ := runM_bind_ok h2
    exact rel2_iff.mp (hf a1 a2 (rel2_iff.mp hx _ _ _ _ _ _ hx1 hx2)) _ _ _ _ _ _ hf1 hf2

theorem Rel2.mono {α} {P Q : α → α → Prop} {x1 x2 : M α} (hx : Rel2 e1 e2 x1 x2 P) (h : ∀ a1 a2, P a1 a2 → Q a1 a2) :
    Rel2 e1 e2 x1 x2 Q :=
  rel2_iff.mpr fun _ _ _ _ _ _ h1 h2 => h _ _ (rel2_iff.mp hx _ _ _ _ _ _ h1 h2)

theorem Rel2.map {α β} {P : α → α → Prop} {Q : β → β → Prop} {x1 x2 : M α} {g : α → β}
    (hx : Rel2 e1 e2 x1 x2 P) (h : ∀ a1 a2, P a1 a2 → Q (g a1) (g a2)) : Rel2 e1 e2 (g <$> x1) (g <$> x2) Q :=
  bind_pure_comp g x1 ▸ bind_pure_comp g x2 ▸ Rel2.bind hx fun a1 a2 ha => Rel2.pure _ _ (h a1 a2 ha)

theorem rel_bind_pure {α β} {Q : β → β → Prop} {a1 a2 : α} {f1 f2 : α → M β} (h : Rel2 e1 e2 (f1 a1) (f2 a2) Q) :
    Rel2 e1 e2 (pure a1 >>= f1) (pure a2 >>= f2) Q :=
  (pure_bind a1 f1).symm ▸ (pure_bind a2 f2).symm ▸ h

theorem Rel2.mapM₂ {α β γ δ} (f1 f2 : α → M β) (era : α → δ) (er : β → γ)
    (hf : ∀ a b, era a = era b → Rel2 e1 e2 (f1 a) (f2 b) (fun b1 b2 => er b1 = er b2)) :
    ∀ (l1 l2 : List α), l1.map era = l2.map era →
      Rel2 e1 e2 (l1.mapM f1) (l2.mapM f2) (fun r1 r2 => r1.map er = r2.map er)
  | [], [], _ => by rw [List.mapM_nil, List.mapM_nil]; exact Rel2.pure _ _ rfl
  | [], _ :: _, h => nomatch h
  | _ :: _, [], h => nomatch h
  | a :: as, b :: bs, h => by
    rw [List.map_cons, List.map_cons, List.cons.injEq] at h
    rw [List.mapM_cons, List.mapM_cons]
    refine Rel2.bind (hf a b h.1) (fun x y hxy => ?_)
    refine Rel2.bind (Rel2.mapM₂ f1 f2 era er hf as bs h.2) (fun xs ys hxs => ?_)
    exact Rel2.pure _ _ (by rw [List.map_cons, List.map_cons, hxy, hxs])

theorem Rel2.mapM {β γ} (f : Val → M β) (er : β → γ)
    (hf : ∀ v1 v2, erVal v1 = erVal v2 → Rel2 e1 e2 (f v1) (f v2) (fun b1 b2 => er b1 = er b2))
    (l1 l2 : List Val) (h : erVals l1 = erVals l2) :
    Rel2 e1 e2 (l1.mapM f) (l2.mapM f) (fun r1 r2 => r1.map er = r2.map er) :=
  Rel2.mapM₂ f f erVal er hf l1 l2 (by rw [← erVals_eq, ← erVals_eq, h])

def ArgsRel (a1 a2 : List ArgV) : Prop := a1.map erArgV = a2.map erArgV

theorem ArgsRel.get {a1 a2 : List ArgV} (h : ArgsRel a1 a2) (i : Nat) : (a1[i]?).map erArgV = (a2[i]?).map erArgV := by
  rw [← List.getElem?_map, ← List.getElem?_map, h]

theorem rel_nth {a1 a2 : List ArgV} (h : ArgsRel a1 a2) (i : Nat) :
    Rel2 e1 e2 (nth a1 i) (nth a2 i) (fun v1 v2 => erVal v1 = erVal v2) := by
  unfold nth
  have hi := h.get i
  cases h1 : a1[i]? with
  | none => exact Rel2.bad_left _ _ _
  | some x =>
    cases h2 : a2[i]? with
    | none => exact Rel2.bad_right _ _ _
    | some y =>
      rw [h1, h2] at hi
      simp only [Option.map_some, Option.some.injEq] at hi
      cases x with
      | triple s v e =>
        cases y with
        | triple s' v' e' => simp only [erArgV, ArgV.triple.injEq] at hi; exact Rel2.pure _ _ hi.2.1
        | locRef n => simp [erArgV] at hi
      | locRef n =>
        cases y with
        | triple s' v' e' => simp [erArgV] at hi
        | locRef n' => exact Rel2.pure _ _ (by simp [erVal])

theorem rel_locAt {a1 a2 : List ArgV} (h : ArgsRel a1 a2) (i : Nat) :
    Rel2 e1 e2 (locAt a1 i) (locAt a2 i) (fun _ _ => True) :=
  rel_any _ _

theorem rel_mkPos (a b : Nat) : Rel2 e1 e2 (mkPos a) (mkPos b) (fun _ _ => True) :=
  rel_any _ _

theorem rel_asTok {v1 v2 : Val} (h : erVal v1 = erVal v2) : Rel2 e1 e2 (asTok v1) (asTok v2) (fun s1 s2 => s1 = s2) := by
  cases v1 <;> first | exact Rel2.bad_left _ _ _ | skip
  cases v2 <;> first | exact Rel2.bad_right _ _ _ | skip
  exact Rel2.pure _ _ (by simpa [erVal] using h)
theorem rel_asStr {v1 v2 : Val} (h : erVal v1 = erVal v2) : Rel2 e1 e2 (asStr v1) (asStr v2) (fun s1 s2 => s1 = s2) := by
  cases v1 <;> first | exact Rel2.bad_left _ _ _ | skip
  cases v2 <;> first | exact Rel2.bad_right _ _ _ | skip
  exact Rel2.pure _ _ (by simpa [erVal] using h)
theorem rel_asTy {v1 v2 : Val} (h : erVal v1 = erVal v2) : Rel2 e1 e2 (asTy v1) (asTy v2) (fun s1 s2 => erTy s1 = erTy s2) := by
  cases v1 <;> first | exact Rel2.bad_left _ _ _ | skip
  cases v2 <;> first | exact Rel2.bad_right _ _ _ | skip
  exact Rel2.pure _ _ (by simpa [erVal] using h)
theorem rel_asPackageV {v1 v2 : Val} (h : erVal v1 = erVal v2) : Rel2 e1 e2 (asPackageV v1) (asPackageV v2) (fun s1 s2 => erPackage s1 = erPackage s2) := by
  cases v1 <;> first | exact Rel2.bad_left _ _ _ | skip
  cases v2 <;> first | exact Rel2.bad_right _ _ _ | skip
  exact Rel2.pure _ _ (by simpa [erVal] using h)
theorem rel_asImportV {v1 v2 : Val} (h : erVal v1 = erVal v2) : Rel2 e1 e2 (asImportV v1) (asImportV v2) (fun s1 s2 => erImport s1 = erImport s2) := by
  cases v1 <;> first | exact Rel2.bad_left _ _ _ | skip
  cases v2 <;> first | exact Rel2.bad_right _ _ _ | skip
  exact Rel2.pure _ _ (by simpa [erVal] using h)
theorem rel_asItemV {v1 v2 : Val} (h : erVal v1 = erVal v2) : Rel2 e1 e2 (asItemV v1) (asItemV v2) (fun s1 s2 => erItem s1 = erItem s2) := by
  cases v1 <;> first | exact Rel2.bad_left _ _ _ | skip
  cases v2 <;> first | exact Rel2.bad_right _ _ _ | skip
  exact Rel2.pure _ _ (by simpa [erVal] using h)
theorem rel_asIfaceV {v1 v2 : Val} (h : erVal v1 = erVal v2) : Rel2 e1 e2 (asIfaceV v1) (asIfaceV v2) (fun s1 s2 => erIface s1 = erIface s2) := by
  cases v1 <;> first | exact Rel2.bad_left _ _ _ | skip
  cases v2 <;> first | exact Rel2.bad_right _ _ _ | skip
  exact Rel2.pure _ _ (by simpa [erVal] using h)
theorem rel_asParcV {v1 v2 : Val} (h : erVal v1 = erVal v2) : Rel2 e1 e2 (asParcV v1) (asParcV v2) (fun s1 s2 => erParc s1 = erParc s2) := by
  cases v1 <;> first | exact Rel2.bad_left _ _ _ | skip
  cases v2 <;> first | exact Rel2.bad_right _ _ _ | skip
  exact Rel2.pure _ _ (by simpa [erVal] using h)
theorem rel_asEnmV {v1 v2 : Val} (h : erVal v1 = erVal v2) : Rel2 e1 e2 (asEnmV v1) (asEnmV v2) (fun s1 s2 => erEnm s1 = erEnm s2) := by
  cases v1 <;> first | exact Rel2.bad_left _ _ _ | skip
  cases v2 <;> first | exact Rel2.bad_right _ _ _ | skip
  exact Rel2.pure _ _ (by simpa [erVal] using h)
theorem rel_asMethodV {v1 v2 : Val} (h : erVal v1 = erVal v2) : Rel2 e1 e2 (asMethodV v1) (asMethodV v2) (fun s1 s2 => erMethod s1 = erMethod s2) := by
  cases v1 <;> first | exact Rel2.bad_left _ _ _ | skip
  cases v2 <;> first | exact Rel2.bad_right _ _ _ | skip
  exact Rel2.pure _ _ (by simpa [erVal] using h)
theorem rel_asConstV {v1 v2 : Val} (h : erVal v1 = erVal v2) : Rel2 e1 e2 (asConstV v1) (asConstV v2) (fun s1 s2 => erConst s1 = erConst s2) := by
  cases v1 <;> first | exact Rel2.bad_left _ _ _ | skip
  cases v2 <;> first | exact Rel2.bad_right _ _ _ | skip
  exact Rel2.pure _ _ (by simpa [erVal] using h)
theorem rel_asFieldV {v1 v2 : Val} (h : erVal v1 = erVal v2) : Rel2 e1 e2 (asFieldV v1) (asFieldV v2) (fun s1 s2 => erField s1 = erField s2) := by
  cases v1 <;> first | exact Rel2.bad_left _ _ _ | skip
  cases v2 <;> first | exact Rel2.bad_right _ _ _ | skip
  exact Rel2.pure _ _ (by simpa [erVal] using h)
theorem rel_asEnumElV {v1 v2 : Val} (h : erVal v1 = erVal v2) : Rel2 e1 e2 (asEnumElV v1) (asEnumElV v2) (fun s1 s2 => erEnumEl s1 = erEnumEl s2) := by
  cases v1 <;> first | exact Rel2.bad_left _ _ _ | skip
  cases v2 <;> first | exact Rel2.bad_right _ _ _ | skip
  exact Rel2.pure _ _ (by simpa [erVal] using h)
theorem rel_asDirV {v1 v2 : Val} (h : erVal v1 = erVal v2) : Rel2 e1 e2 (asDirV v1) (asDirV v2) (fun s1 s2 => erDir s1 = erDir s2) := by
  cases v1 <;> first | exact Rel2.bad_left _ _ _ | skip
  cases v2 <;> first | exact Rel2.bad_right _ _ _ | skip
  exact Rel2.pure _ _ (by simpa [erVal] using h)
theorem rel_asArgV {v1 v2 : Val} (h : erVal v1 = erVal v2) : Rel2 e1 e2 (asArgV v1) (asArgV v2) (fun s1 s2 => erArg s1 = erArg s2) := by
  cases v1 <;> first | exact Rel2.bad_left _ _ _ | skip
  cases v2 <;> first | exact Rel2.bad_right _ _ _ | skip
  exact Rel2.pure _ _ (by simpa [erVal] using h)
theorem rel_asIelV {v1 v2 : Val} (h : erVal v1 = erVal v2) : Rel2 e1 e2 (asIelV v1) (asIelV v2) (fun s1 s2 => erIel s1 = erIel s2) := by
  cases v1 <;> first | exact Rel2.bad_left _ _ _ | skip
  cases v2 <;> first | exact Rel2.bad_right _ _ _ | skip
  exact Rel2.pure _ _ (by simpa [erVal] using h)
theorem rel_asPelV {v1 v2 : Val} (h : erVal v1 = erVal v2) : Rel2 e1 e2 (asPelV v1) (asPelV v2) (fun s1 s2 => erPel s1 = erPel s2) := by
  cases v1 <;> first | exact Rel2.bad_left _ _ _ | skip
  cases v2 <;> first | exact Rel2.bad_right _ _ _ | skip
  exact Rel2.pure _ _ (by simpa [erVal] using h)

theorem rel_asList {v1 v2 : Val} (h : erVal v1 = erVal v2) : Rel2 e1 e2 (asList v1) (asList v2) (fun l1 l2 => erVals l1 = erVals l2) := by
  cases v1 <;> first | exact Rel2.bad_left _ _ _ | skip
  cases v2 <;> first | exact Rel2.bad_right _ _ _ | skip
  exact Rel2.pure _ _ (by simpa [erVal] using h)

theorem rel_asOpt {v1 v2 : Val} (h : erVal v1 = erVal v2) :
    Rel2 e1 e2 (asOpt v1) (asOpt v2) (fun o1 o2 => o1.map erVal = o2.map erVal) := by
  unfold asOpt
  split
  · split
    · exact Rel2.pure _ _ rfl
    · exact absurd h (by simp [erVal])
    · exact Rel2.bad_right _ _ _
  · split
    · exact absurd h (by simp [erVal])
    · exact Rel2.pure _ _ (congrArg some (Val.some_.inj h))
    · exact Rel2.bad_right _ _ _
  · exact Rel2.bad_left _ _ _

theorem rel_tokAt {a1 a2 : List ArgV} (h : ArgsRel a1 a2) (i : Nat) :
    Rel2 e1 e2 (tokAt a1 i) (tokAt a2 i) (fun s1 s2 => s1 = s2) := by
  unfold tokAt
  exact Rel2.bind (rel_nth h i) (fun v1 v2 hv => rel_asTok hv)

theorem rel_asStrPairV {v1 v2 : Val} (h : erVal v1 = erVal v2) : Rel2 e1 e2 (asStrPairV v1) (asStrPairV v2) (fun s1 s2 => s1 = s2) := by
  unfold asStrPairV
  split
  · split
    · exact Rel2.pure _ _ (by simp only [erVal, Val.pair.injEq, Val.str.injEq] at h; simp [h.1, h.2])
    · exact Rel2.bad_right _ _ _
  · exact Rel2.bad_left _ _ _

theorem rel_asLocTokV {v1 v2 : Val} (h : erVal v1 = erVal v2) : Rel2 e1 e2 (asLocTokV v1) (asLocTokV v2) (fun s1 s2 => s1.2 = s2.2) := by
  unfold asLocTokV
  split
  · split
    · exact Rel2.pure _ _ (by simp only [erVal, Val.pair.injEq, Val.tok.injEq] at h; exact h.2)
    · exact Rel2.bad_right _ _ _
  · exact Rel2.bad_left _ _ _

theorem rel_asAnnParamV {v1 v2 : Val} (h : erVal v1 = erVal v2) : Rel2 e1 e2 (asAnnParamV v1) (asAnnParamV v2) (fun s1 s2 => s1 = s2) := by
  unfold asAnnParamV
  split
  · split
    · exact Rel2.pure _ _ (by simp only [erVal, Val.pair.injEq, Val.str.injEq] at h; simp [h.1])
    · exfalso; simp [erVal] at h
    · exact Rel2.bad_right _ _ _
  · split
    · exfalso; simp [erVal] at h
    · exact Rel2.pure _ _ (by simp only [erVal, Val.pair.injEq, Val.str.injEq, Val.some_.injEq] at h; simp [h.1, h.2])
    · exact Rel2.bad_right _ _ _
  · exact Rel2.bad_left _ _ _

theorem map_id_of_ann (l : List Annotation) : l.map id = l := by simp

theorem rel_asAnns {v1 v2 : Val} (h : erVal v1 = erVal v2) : Rel2 e1 e2 (asAnns v1) (asAnns v2) (fun s1 s2 => s1 = s2) := by
  unfold asAnns
  refine Rel2.bind (rel_asList h) (fun l1 l2 hl => ?_)
  refine Rel2.mono (Rel2.mapM _ (fun a : Annotation => a) ?_ l1 l2 hl) (fun r1 r2 hr => by simpa using hr)
  intro a b hab
  cases a <;> first | exact Rel2.bad_left _ _ _ | skip
  cases b <;> first | exact Rel2.bad_right _ _ _ | skip
  exact Rel2.pure _ _ (by simpa [erVal] using hab)

theorem rel_optTokStr {v1 v2 : Val} (h : erVal v1 = erVal v2) : Rel2 e1 e2 (optTokStr v1) (optTokStr v2) (fun s1 s2 => s1 = s2) := by
  unfold optTokStr
  refine Rel2.bind (rel_asOpt h) (fun o1 o2 ho => ?_)
  cases o1 with
  | none =>
    cases o2 with
    | none => exact Rel2.pure _ _ rfl
    | some _ => simp at ho
  | some a =>
    cases o2 with
    | none => simp at ho
    | some b =>
      exact Rel2.map (rel_asTok (Option.some.inj ho)) (fun _ _ hh => by rw [hh])

theorem rel_joinToks {v1 v2 : Val} (h : erVal v1 = erVal v2) : Rel2 e1 e2 (joinToks v1) (joinToks v2) (fun s1 s2 => s1 = s2) := by
  unfold joinToks
  refine Rel2.bind (rel_asList h) (fun l1 l2 hl => ?_)
  refine Rel2.bind (Rel2.mapM _ (fun s : String => s) (fun a b hab => rel_asTok hab) l1 l2 hl) (fun r1 r2 hr => ?_)
  exact Rel2.pure _ _ (by simp only [List.map_id'] at hr; rw [hr])

theorem filterMap_er (os : List (Option Val)) : (os.filterMap id).map erVal = (os.map (Option.map erVal)).filterMap id := by
  rw [List.map_filterMap, List.filterMap_map]
  rfl

theorem rel_flattenOpts {v1 v2 : Val} (h : erVal v1 = erVal v2) :
    Rel2 e1 e2 (flattenOpts v1) (flattenOpts v2) (fun l1 l2 => erVals l1 = erVals l2) := by
  unfold flattenOpts
  refine Rel2.bind (rel_asList h) (fun l1 l2 hl => ?_)
  refine Rel2.bind (Rel2.mapM _ (Option.map erVal) (fun a b hab => rel_asOpt hab) l1 l2 hl) (fun r1 r2 hr => ?_)
  exact Rel2.pure _ _ (by rw [erVals_eq, erVals_eq, filterMap_er, filterMap_er, hr])

theorem rel_simpleType (n1 n2 : String) (k : TypeKind) (a b a' b' : Nat) (hn : n1 = n2) :
    Rel2 e1 e2 (simpleType n1 k a b) (simpleType n2 k a' b') (fun v1 v2 => erVal v1 = erVal v2) := by
  unfold simpleType
  exact Rel2.bind (rel_any _ _) (fun _ _ _ => Rel2.pure _ _ (by simp [erVal, erTy, erTys, hn]))

theorem rel_recoveryAction (msg : String) {a1 a2 : List ArgV} (h : ArgsRel a1 a2) :
    Rel2 e1 e2 (recoveryAction msg a1) (recoveryAction msg a2) (fun v1 v2 => erVal v1 = erVal v2) := by
  unfold recoveryAction
  refine Rel2.bind (rel_nth h 0) (fun v1 v2 _ => ?_)
  cases v1 <;> first | exact Rel2.bad_left _ _ _ | skip
  cases v2 <;> first | exact Rel2.bad_right _ _ _ | skip
  exact Rel2.bind (rel_any _ _) (fun _ _ _ => Rel2.bind (rel_any _ _) (fun _ _ _ => Rel2.pure _ _ rfl))

theorem isSome_of_map_eq {o1 o2 : Option Val} (h : o1.map erVal = o2.map erVal) : o1.isSome = o2.isSome := by
  cases o1 <;> cases o2 <;> simp_all

/-- `f (← nth args i)`, as it stands in front of the rest of an action -/
theorem Rel2.at {α β} {P : α → α → Prop} {Q : β → β → Prop} {a1 a2 : List ArgV} {f : Val → M α} {g1 g2 : α → M β}
    (h : ArgsRel a1 a2) (i : Nat) (hf : ∀ {v1 v2}, erVal v1 = erVal v2 → Rel2 e1 e2 (f v1) (f v2) P)
    (k : ∀ x1 x2, P x1 x2 → Rel2 e1 e2 (g1 x1) (g2 x2) Q) :
    Rel2 e1 e2 (nth a1 i >>= fun v => f v >>= g1) (nth a2 i >>= fun v => f v >>= g2) Q :=
  Rel2.bind (rel_nth h i) fun _ _ hv => Rel2.bind (hf hv) k

/-- `mkRange (← locAt args i) (← locAt args j)`, as it stands in front of the rest of an action: ranges
    are erased, so nothing is to be related -/
theorem Rel2.rangeAt {β} {Q : β → β → Prop} {a1 a2 : List ArgV} {f1 f2 : Range → M β} (i j : Nat)
    (k : ∀ r1 r2, Rel2 e1 e2 (f1 r1) (f2 r2) Q) :
    Rel2 e1 e2 (locAt a1 i >>= fun a => locAt a1 j >>= fun b => mkRange a b >>= f1)
      (locAt a2 i >>= fun a => locAt a2 j >>= fun b => mkRange a b >>= f2) Q :=
  Rel2.bind (rel_any _ _) fun _ _ _ => Rel2.bind (rel_any _ _) fun _ _ _ => Rel2.bind (rel_any _ _) fun r1 r2 _ => k r1 r2

theorem isEmpty_of_erVals {l1 l2 : List Val} (h : erVals l1 = erVals l2) : l1.isEmpty = l2.isEmpty := by
  cases l1 <;> cases l2 <;> simp_all [erVals]

/-! One case per alternative of `userAction`, in its order; each case names, bind by bind, the
specification of the primitive the two runs call next. -/

theorem userAction_rel (label : Nat) (a1 a2 : List ArgV) (h : ArgsRel a1 a2) :
    Rel2 e1 e2 (userAction label a1) (userAction label a2) (fun v1 v2 => erVal v1 = erVal v2) := by
  unfold userAction
  split
  · -- 16 OptAidl
    refine Rel2.at h 0 rel_asPackageV fun p1 p2 hp => ?_
    refine Rel2.at h 1 rel_asList fun _ _ hl => ?_
    refine Rel2.bind (Rel2.mapM _ erImport (fun _ _ hh => rel_asImportV hh) _ _ hl) fun i1 i2 hi => ?_
    refine Rel2.at h 2 rel_asList fun _ _ hl => ?_
    refine Rel2.bind (Rel2.mapM _ erImport (fun _ _ hh => rel_asImportV hh) _ _ hl) fun d1 d2 hd => ?_
    refine Rel2.at h 3 rel_asOpt fun o1 o2 ho => ?_
    cases o1 <;> cases o2 <;> simp at ho
    · exact Rel2.pure _ _ rfl
    · exact Rel2.bind (rel_asItemV ho) fun it1 it2 hit => Rel2.pure _ _ (by simp [erVal, erAidl, hp, hi, hd, hit])
  · -- 17 Package
    refine Rel2.at h 3 rel_asStr fun n1 n2 hn => ?_
    exact Rel2.rangeAt 2 4 fun _ _ => Rel2.rangeAt 0 5 fun _ _ => Rel2.pure _ _ (by rw [hn]; rfl)
  · -- 18 Import
    refine Rel2.at h 3 rel_joinToks fun _ _ hp => Rel2.bind (rel_tokAt h 4) fun _ _ hn => ?_
    exact Rel2.rangeAt 2 5 fun _ _ => Rel2.rangeAt 0 6 fun _ _ => Rel2.pure _ _ (by rw [hp, hn]; rfl)
  · -- 19 QualifiedName
    refine Rel2.at h 0 rel_asList fun l1 l2 hl => Rel2.bind (rel_tokAt h 1) fun _ _ hn => ?_
    rw [isEmpty_of_erVals hl, hn]
    split
    · exact Rel2.pure _ _ rfl
    · exact Rel2.bind (rel_joinToks (v1 := .list l1) (v2 := .list l2) (by simp [erVal, hl])) fun _ _ hj => Rel2.pure _ _ (by rw [hj])
  · -- 20 DeclaredParcelable
    refine Rel2.at h 4 rel_asStrPairV fun _ _ hpn => ?_
    exact Rel2.rangeAt 3 5 fun _ _ => Rel2.rangeAt 1 7 fun _ _ => Rel2.pure _ _ (by rw [hpn]; rfl)
  · -- 100 DottedName
    refine Rel2.at h 0 rel_joinToks fun _ _ hs => Rel2.bind (rel_tokAt h 1) fun _ _ hn => ?_
    exact Rel2.pure _ _ (by rw [hs, hn])
  · -- 21 OptItem: interface
    exact Rel2.at h 0 rel_asIfaceV fun _ _ hx => Rel2.pure _ _ (by simp [erVal, erItem, hx])
  · -- 22 OptItem: parcelable
    exact Rel2.at h 0 rel_asParcV fun _ _ hx => Rel2.pure _ _ (by simp [erVal, erItem, hx])
  · -- 23 OptItem: enum
    exact Rel2.at h 0 rel_asEnmV fun _ _ hx => Rel2.pure _ _ (by simp [erVal, erItem, hx])
  · exact rel_recoveryAction _ h
  · -- 25 Interface
    refine Rel2.at h 9 rel_flattenOpts fun _ _ hl => ?_
    refine Rel2.bind (Rel2.mapM _ erIel (fun _ _ hh => rel_asIelV hh) _ _ hl) fun _ _ hels => ?_
    refine Rel2.at h 3 rel_asOpt fun _ _ ho => ?_
    refine Rel2.bind (rel_tokAt h 6) fun _ _ hn => Rel2.at h 1 rel_asAnns fun _ _ ha => ?_
    refine Rel2.bind (rel_any _ _) fun _ _ _ => Rel2.bind (rel_any _ _) fun _ _ _ => ?_
    exact Rel2.rangeAt 2 11 fun _ _ => Rel2.rangeAt 5 7 fun _ _ => Rel2.pure _ _ (by simp [erVal, erIface, hels, hn, ha, isSome_of_map_eq ho])
  · -- 26 InterfaceElement: method
    exact Rel2.at h 0 rel_asMethodV fun _ _ hx => Rel2.pure _ _ (by simp [erVal, erIel, hx])
  · -- 27 InterfaceElement: const
    exact Rel2.at h 0 rel_asConstV fun _ _ hx => Rel2.pure _ _ (by simp [erVal, erIel, hx])
  · exact rel_recoveryAction _ h
  · -- 29 Parcelable
    refine Rel2.at h 8 rel_flattenOpts fun _ _ hl => ?_
    refine Rel2.bind (Rel2.mapM _ erPel (fun _ _ hh => rel_asPelV hh) _ _ hl) fun _ _ hels => ?_
    refine Rel2.bind (rel_tokAt h 5) fun _ _ hn => Rel2.at h 1 rel_asAnns fun _ _ ha => ?_
    refine Rel2.bind (rel_any _ _) fun _ _ _ => Rel2.bind (rel_any _ _) fun _ _ _ => ?_
    exact Rel2.rangeAt 2 10 fun _ _ => Rel2.rangeAt 4 6 fun _ _ => Rel2.pure _ _ (by simp [erVal, erParc, hels, hn, ha])
  · -- 30 ParcelableElement: field
    exact Rel2.at h 0 rel_asFieldV fun _ _ hx => Rel2.pure _ _ (by simp [erVal, erPel, hx])
  · -- 31 ParcelableElement: const
    exact Rel2.at h 0 rel_asConstV fun _ _ hx => Rel2.pure _ _ (by simp [erVal, erPel, hx])
  · exact rel_recoveryAction _ h
  · -- 33 Enum
    refine Rel2.at h 8 rel_flattenOpts fun _ _ hl => ?_
    refine Rel2.bind (Rel2.mapM _ erEnumEl (fun _ _ hh => rel_asEnumElV hh) _ _ hl) fun _ _ hels => ?_
    refine Rel2.bind (rel_tokAt h 5) fun _ _ hn => Rel2.at h 1 rel_asAnns fun _ _ ha => ?_
    refine Rel2.bind (rel_any _ _) fun _ _ _ => Rel2.bind (rel_any _ _) fun _ _ _ => ?_
    exact Rel2.rangeAt 2 10 fun _ _ => Rel2.rangeAt 4 6 fun _ _ => Rel2.pure _ _ (by simp [erVal, erEnm, hels, hn, ha])
  · -- 34 OptEnumElement
    exact Rel2.bind (rel_nth h 0) fun _ _ hv => Rel2.pure _ _ (by simp [erVal, hv])
  · exact rel_recoveryAction _ h
  · -- 36 Method
    refine Rel2.at h 11 rel_asList fun _ _ hl => ?_
    refine Rel2.bind (Rel2.mapM _ erArg (fun _ _ hh => rel_asArgV hh) _ _ hl) fun _ _ hmargs => ?_
    refine Rel2.bind (rel_any _ _) fun _ _ _ => Rel2.at h 14 rel_asOpt fun o1 o2 ho => ?_
    extract_lets rest1 rest2
    have hrest : ∀ code, Rel2 e1 e2 (rest1 code) (rest2 code) (fun v1 v2 => erVal v1 = erVal v2) := fun code => by
      refine Rel2.at h 4 rel_asOpt fun _ _ how => Rel2.bind (rel_tokAt h 8) fun _ _ hn => ?_
      refine Rel2.at h 6 rel_asTy fun _ _ hrt => ?_
      refine Rel2.at h 1 rel_asAnns fun _ _ ha => ?_
      refine Rel2.bind (rel_any _ _) fun _ _ _ => Rel2.bind (rel_any _ _) fun _ _ _ => ?_
      refine Rel2.rangeAt 2 16 fun _ _ => Rel2.rangeAt 7 9 fun _ _ => ?_
      refine Rel2.bind (rel_any _ _) fun _ _ _ => Rel2.bind (rel_any _ _) fun _ _ _ => Rel2.rangeAt 3 5 fun _ _ => ?_
      exact Rel2.pure _ _ (by simp [erVal, erMethod, hmargs, isSome_of_map_eq how, hn, hrt, ha])
    cases o1 <;> cases o2 <;> simp at ho
    · exact rel_bind_pure (hrest _)
    · refine Rel2.bind (rel_asLocTokV ho) fun ls1 ls2 hls => ?_
      rw [hls]
      cases parseU32 ls2.snd with
      | ok v => exact rel_bind_pure (hrest _)
      | error e =>
        refine Rel2.bind (rel_any _ _) fun _ _ _ => Rel2.bind (rel_any _ _) fun _ _ _ => rel_bind_pure (hrest _)
  · -- 37 Arg
    refine Rel2.at h 1 rel_asDirV fun _ _ hd => ?_
    refine Rel2.bind (rel_any _ _) fun _ _ _ => Rel2.bind (rel_any _ _) fun _ _ _ => ?_
    refine Rel2.at h 5 rel_optTokStr fun _ _ hn => ?_
    refine Rel2.at h 3 rel_asTy fun _ _ ht => ?_
    refine Rel2.bind (rel_any _ _) fun _ _ _ => Rel2.bind (rel_any _ _) fun _ _ _ => Rel2.bind (rel_any _ _) fun _ _ _ => ?_
    refine Rel2.at h 2 rel_asAnns fun _ _ ha => Rel2.bind (rel_any _ _) fun _ _ _ => ?_
    exact Rel2.pure _ _ (by simp [erVal, erArg, hd, hn, ht, ha])
  · -- 38 Direction
    refine Rel2.bind (rel_any _ _) fun _ _ _ => Rel2.bind (rel_any _ _) fun _ _ _ => ?_
    refine Rel2.at h 1 rel_optTokStr fun o1 o2 ho => ?_
    subst ho
    split
    · exact Rel2.bind (rel_any _ _) fun _ _ _ => Rel2.pure _ _ rfl
    · exact Rel2.bind (rel_any _ _) fun _ _ _ => Rel2.pure _ _ rfl
    · exact Rel2.bind (rel_any _ _) fun _ _ _ => Rel2.pure _ _ rfl
    · exact Rel2.pure _ _ rfl
    · exact Rel2.bad_left _ _ _
  · -- 39 Const
    refine Rel2.bind (rel_tokAt h 6) fun _ _ hn => Rel2.at h 4 rel_asTy fun _ _ ht => ?_
    refine Rel2.at h 9 rel_asStr fun _ _ hs => ?_
    refine Rel2.at h 1 rel_asAnns fun _ _ ha => ?_
    refine Rel2.bind (rel_any _ _) fun _ _ _ => Rel2.bind (rel_any _ _) fun _ _ _ => ?_
    exact Rel2.rangeAt 2 10 fun _ _ => Rel2.rangeAt 5 7 fun _ _ => Rel2.pure _ _ (by simp [erVal, erConst, hn, ht, hs, ha])
  · -- 40 Field
    refine Rel2.at h 7 rel_asOpt fun o1 o2 ho => ?_
    extract_lets rest1 rest2
    have hrest : ∀ value, Rel2 e1 e2 (rest1 value) (rest2 value) (fun v1 v2 => erVal v1 = erVal v2) := fun value => by
      refine Rel2.bind (rel_tokAt h 5) fun _ _ hn => Rel2.at h 3 rel_asTy fun _ _ ht => ?_
      refine Rel2.at h 1 rel_asAnns fun _ _ ha => ?_
      refine Rel2.bind (rel_any _ _) fun _ _ _ => Rel2.bind (rel_any _ _) fun _ _ _ => ?_
      exact Rel2.rangeAt 2 8 fun _ _ => Rel2.rangeAt 4 6 fun _ _ => Rel2.pure _ _ (by simp [erVal, erField, hn, ht, ha])
    cases o1 <;> cases o2 <;> simp at ho
    · exact rel_bind_pure (hrest _)
    · exact Rel2.bind (Rel2.map (rel_asStr ho) fun _ _ hh => congrArg some hh) fun _ _ hh => hh ▸ hrest _
  · -- 41 EnumElement
    refine Rel2.bind (rel_tokAt h 4) fun _ _ hn => Rel2.at h 6 rel_optTokStr fun _ _ hval => ?_
    refine Rel2.bind (rel_any _ _) fun _ _ _ => Rel2.bind (rel_any _ _) fun _ _ _ => ?_
    exact Rel2.rangeAt 2 7 fun _ _ => Rel2.rangeAt 3 5 fun _ _ => Rel2.pure _ _ (by simp [erVal, erEnumEl, hn, hval])
  · -- 50 void
    exact Rel2.bind (rel_tokAt h 1) fun _ _ hn => Rel2.bind (rel_any _ _) fun _ _ _ => Rel2.bind (rel_any _ _) fun _ _ _ => rel_simpleType _ _ _ _ _ _ _ hn
  · -- 51 primitive
    exact Rel2.bind (rel_tokAt h 1) fun _ _ hn => Rel2.bind (rel_any _ _) fun _ _ _ => Rel2.bind (rel_any _ _) fun _ _ _ => rel_simpleType _ _ _ _ _ _ _ hn
  · -- 52 String
    exact Rel2.bind (rel_tokAt h 1) fun _ _ hn => Rel2.bind (rel_any _ _) fun _ _ _ => Rel2.bind (rel_any _ _) fun _ _ _ => rel_simpleType _ _ _ _ _ _ _ hn
  · -- 53 CharSequence
    exact Rel2.bind (rel_tokAt h 1) fun _ _ hn => Rel2.bind (rel_any _ _) fun _ _ _ => Rel2.bind (rel_any _ _) fun _ _ _ => rel_simpleType _ _ _ _ _ _ _ hn
  · -- 54 TypeArray
    refine Rel2.at h 2 rel_asTy fun _ _ ht => ?_
    exact Rel2.rangeAt 1 3 fun _ _ => Rel2.rangeAt 0 6 fun _ _ => Rel2.pure _ _ (by simp [erVal, erTy, erTys, ht])
  · -- 55 TypeList
    refine Rel2.at h 5 rel_asTy fun _ _ ht => ?_
    exact Rel2.rangeAt 1 3 fun _ _ => Rel2.rangeAt 0 7 fun _ _ => Rel2.pure _ _ (by simp [erVal, erTy, erTys, ht])
  · -- 56 raw List
    exact Rel2.rangeAt 0 2 fun _ _ => Rel2.pure _ _ rfl
  · -- 57 TypeMap
    refine Rel2.at h 5 rel_asTy fun _ _ hk => ?_
    refine Rel2.at h 7 rel_asTy fun _ _ ht => ?_
    exact Rel2.rangeAt 1 3 fun _ _ => Rel2.rangeAt 0 9 fun _ _ => Rel2.pure _ _ (by simp [erVal, erTy, erTys, hk, ht])
  · -- 58 raw Map
    exact Rel2.rangeAt 0 2 fun _ _ => Rel2.pure _ _ rfl
  · -- 59 TypeCustom
    refine Rel2.rangeAt 0 2 fun _ _ => ?_
    exact Rel2.at h 1 rel_asStr fun _ _ hs => Rel2.pure _ _ (by rw [hs]; rfl)
  · -- 60 AnnotationList
    exact Rel2.at h 0 rel_flattenOpts fun _ _ hl => Rel2.pure _ _ (by simp [erVal, hl])
  · -- 61 OptAnnotation
    refine Rel2.at h 1 rel_asOpt fun o1 o2 ho => ?_
    extract_lets rest1 rest2
    have hrest : ∀ ps, Rel2 e1 e2 (rest1 ps) (rest2 ps) (fun v1 v2 => erVal v1 = erVal v2) := fun ps =>
      Rel2.bind (rel_tokAt h 0) fun _ _ hn => Rel2.pure _ _ (by rw [hn])
    cases o1 <;> cases o2 <;> simp at ho
    · exact rel_bind_pure (hrest _)
    · refine Rel2.bind (rel_asList ho) fun _ _ hl => ?_
      refine Rel2.bind (Rel2.mapM _ (fun x : String × Option String => x) (fun _ _ hh => rel_asAnnParamV hh) _ _ hl) fun _ _ hr => ?_
      rw [List.map_id', List.map_id'] at hr
      exact hr ▸ hrest _
  · -- 62 AnnotationParam
    refine Rel2.at h 1 rel_optTokStr fun o1 o2 ho => ?_
    subst ho
    extract_lets rest1 rest2
    have hrest : ∀ w, Rel2 e1 e2 (rest1 w) (rest2 w) (fun v1 v2 => erVal v1 = erVal v2) := fun w =>
      Rel2.bind (rel_tokAt h 0) fun _ _ hk => Rel2.pure _ _ (by rw [hk])
    cases o1 with
    | none => exact rel_bind_pure (hrest _)
    | some s => exact rel_bind_pure (hrest _)
  · -- 63 Value
    exact Rel2.bind (rel_tokAt h 0) fun _ _ hn => Rel2.pure _ _ (by rw [hn])
  · -- 64 Value
    exact Rel2.bind (rel_tokAt h 0) fun _ _ hn => Rel2.pure _ _ (by rw [hn])
  · -- 65 Value
    exact Rel2.bind (rel_tokAt h 0) fun _ _ hn => Rel2.pure _ _ (by rw [hn])
  · -- 66 Value
    exact Rel2.bind (rel_tokAt h 0) fun _ _ hn => Rel2.pure _ _ (by rw [hn])
  · exact Rel2.pure _ _ rfl
  · exact Rel2.pure _ _ rfl
  · -- 69
    exact Rel2.bind (rel_tokAt h 0) fun _ _ ha => Rel2.bind (rel_tokAt h 2) fun _ _ hb => Rel2.pure _ _ (by rw [ha, hb])
  · exact Rel2.bad_left _ _ _

end Aidl.Props.Rel
