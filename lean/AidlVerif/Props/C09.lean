import AidlVerif.Spec.C09
import AidlVerif.Lemmas.Firsts
import AidlVerif.Lemmas.Validate

namespace Aidl.Props.C09
open Aidl Aidl.Spec Aidl.Spec.C09

/-! `absState pre`: the locals of `check_methods` after the methods `pre`. -/

def fpcStep (acc : List (Nat × Method)) (m : Method) : List (Nat × Method) :=
  match m.transactCode with
  | some c => (match acc.lookup c with | some _ => acc | none => acc ++ [(c, m)])
  | none => acc

/-- `method_ids`: the first kept method of each explicit code -/
def firstPerCode (K : List Method) : List (Nat × Method) := K.foldl fpcStep []

def absState (pre : List Method) : IdState :=
  let K := kept pre
  { names := K.map (fun m => (m.name, m)),
    firstWithoutId := K.find? (fun p => p.transactCode.isNone),
    firstWithId := K.find? (fun p => p.transactCode.isSome),
    ids := firstPerCode K }

theorem keptAux_eq (seen : List String) (ms : List Method) :
    keptAux seen ms = firstsAux Method.name seen ms := by
  induction ms generalizing seen with
  | nil => rfl
  | cons m ms ih => simp only [keptAux, firstsAux, ih]

theorem kept_eq (ms : List Method) : kept ms = firsts Method.name ms := keptAux_eq [] ms

theorem kept_snoc (pre : List Method) (m : Method) :
    kept (pre ++ [m]) = kept pre ++ (if pre.any (fun p => p.name == m.name) then [] else [m]) := by
  simp only [kept_eq, firsts_snoc]

theorem lookup_fold (acc : List (Nat × Method)) (K : List Method) (c : Nat) :
    (K.foldl fpcStep acc).lookup c = (acc.lookup c).or (K.find? (fun p => p.transactCode == some c)) := by
  induction K generalizing acc with
  | nil => simp
  | cons m ms ih =>
    rw [List.foldl_cons, ih, List.find?_cons]
    unfold fpcStep
    cases hm : m.transactCode with
    | none => simp
    | some c' =>
      by_cases e : c' = c
      · subst e
        cases hl : acc.lookup c' <;> simp [hl, List.lookup_append]
      · have e1 : (c' == c) = false := beq_false_of_ne e
        have e2 : (c == c') = false := beq_false_of_ne fun h => e h.symm
        cases hl : acc.lookup c' <;> simp [hl, List.lookup_append, List.lookup_cons, e1, e2]

theorem lookup_firstPerCode (K : List Method) (c : Nat) :
    (firstPerCode K).lookup c = K.find? (fun p => p.transactCode == some c) := by
  unfold firstPerCode
  rw [lookup_fold]
  rfl

theorem isEmpty_fold (acc : List (Nat × Method)) (K : List Method) :
    (K.foldl fpcStep acc).isEmpty = (acc.isEmpty && !(K.any (fun p => p.transactCode.isSome))) := by
  induction K generalizing acc with
  | nil => simp
  | cons m ms ih =>
    rw [List.foldl_cons, ih, List.any_cons]
    unfold fpcStep
    cases hm : m.transactCode with
    | none => simp
    | some c =>
      cases hl : acc.lookup c with
      | some y => cases acc <;> simp_all
      | none => simp [hl]

theorem isEmpty_firstPerCode (K : List Method) :
    (firstPerCode K).isEmpty = !(K.any (fun p => p.transactCode.isSome)) := by
  unfold firstPerCode; rw [isEmpty_fold]; simp

theorem absState_snoc_dup (pre : List Method) (m : Method)
    (hdup : pre.any (fun p => p.name == m.name) = true) : absState (pre ++ [m]) = absState pre := by
  unfold absState
  rw [kept_snoc]
  simp [hdup]

theorem absState_snoc_new (pre : List Method) (m : Method)
    (hnew : pre.any (fun p => p.name == m.name) = false) :
    absState (pre ++ [m]) =
      { names := (absState pre).names ++ [(m.name, m)],
        firstWithoutId := if m.transactCode.isNone && (absState pre).firstWithoutId.isNone then some m
                          else (absState pre).firstWithoutId,
        firstWithId := if m.transactCode.isSome && (absState pre).firstWithId.isNone then some m
                       else (absState pre).firstWithId,
        ids := fpcStep (absState pre).ids m } := by
  unfold absState
  rw [kept_snoc]
  simp only [hnew, Bool.false_eq_true, if_false, List.map_append, List.map_cons, List.map_nil,
    List.find?_append, firstPerCode, List.foldl_append, List.foldl_cons, List.foldl_nil]
  congr 1
  · cases h1 : (kept pre).find? (fun p => p.transactCode.isNone) <;>
      cases h2 : m.transactCode <;> simp [h2]
  · cases h1 : (kept pre).find? (fun p => p.transactCode.isSome) <;>
      cases h2 : m.transactCode <;> simp [h2]

theorem filter_isEmpty_any {α} (l : List α) (p : α → Bool) : (l.filter p).isEmpty = !(l.any p) := by
  rw [Bool.eq_iff_iff]
  simp [List.isEmpty_iff, List.filter_eq_nil_iff]

theorem step_spec (pre : List Method) (m : Method) :
    ∃ ds, checkMethodIdsStep (absState pre) m = .ok (absState (pre ++ [m]), ds)
      ∧ ds.map reportOf = stepSpec pre m := by
  unfold checkMethodIdsStep stepSpec
  have hlook : (absState pre).names.lookup m.name = pre.find? (fun p => p.name == m.name) := by
    unfold absState
    simp only
    rw [lookup_keyed Method.name, kept_eq, find_firsts]
  rw [hlook]
  cases hf : pre.find? (fun p => p.name == m.name) with
  | some previous =>
    have hdup : pre.any (fun p => p.name == m.name) = true := by rw [← List.isSome_find?, hf]; rfl
    simp only [absState_snoc_dup pre m hdup]
    exact ⟨_, rfl, by simp [reportOf, mkDiag]⟩
  | none =>
    have hnew : pre.any (fun p => p.name == m.name) = false := by rw [← List.isSome_find?, hf]; rfl
    rw [absState_snoc_new pre m hnew]
    have hF1 : (absState pre).firstWithId = ((kept pre).filter (fun p => p.transactCode.isSome)).head? := by
      unfold absState; simp only [List.head?_filter]
    have hF2 : (absState pre).firstWithoutId = ((kept pre).filter (fun p => p.transactCode.isNone)).head? := by
      unfold absState; simp only [List.head?_filter]
    have hI : (absState pre).ids.isEmpty = ((kept pre).filter (fun p => p.transactCode.isSome)).isEmpty := by
      unfold absState; simp only [isEmpty_firstPerCode, filter_isEmpty_any]
    have hL : ∀ c, (absState pre).ids.lookup c = (kept pre).find? (fun p => p.transactCode == some c) := by
      intro c; unfold absState; simp only [lookup_firstPerCode]
    simp only [hF1, hF2, hI]
    generalize ((kept pre).filter (fun p => p.transactCode.isSome)) = cK
    generalize ((kept pre).filter (fun p => p.transactCode.isNone)) = uK
    cases hm : m.transactCode with
    | none =>
      cases cK with
      | nil => cases uK <;> simp [fpcStep, hm]
      | cons c cs => cases uK <;> simp [fpcStep, hm, reportOf, mkDiag]
    | some code =>
      simp only [hL]
      cases hfind : (kept pre).find? (fun p => p.transactCode == some code) with
      | none =>
        cases cK with
        | nil => cases uK <;> simp [fpcStep, hm, hL, hfind, reportOf, mkDiag]
        | cons c cs => cases uK <;> simp [fpcStep, hm, hL, hfind]
      | some prev =>
        cases cK with
        | nil => cases uK <;> simp [fpcStep, hm, hL, hfind, reportOf, mkDiag]
        | cons c cs => cases uK <;> simp [fpcStep, hm, hL, hfind, reportOf, mkDiag]


/-- after the methods `pre`, the id bookkeeping of `check_methods` pushes for `ms` exactly the reports
    the statement lists (`specAux`); in particular it never panics: the `unwrap`s of `check_methods`
    are safe (`C01.checkMethods_ok`) -/
theorem ids_spec (pre ms : List Method) :
    ∃ ds, idDiagsLoop (absState pre) ms = .ok ds ∧ ds.map reportOf = specAux pre ms := by
  induction ms generalizing pre with
  | nil => exact ⟨[], rfl, rfl⟩
  | cons m ms ih =>
    obtain ⟨d1, h1, e1⟩ := step_spec pre m
    obtain ⟨d2, h2, e2⟩ := ih (pre ++ [m])
    refine ⟨d1 ++ d2, ?_, ?_⟩
    · simp [idDiagsLoop, h1, h2]
    · simp [specAux, e1, e2]

theorem ids_spec_all (ms : List Method) :
    ∃ ds, idDiagsLoop {} ms = .ok ds ∧ ds.map reportOf = spec ms :=
  ids_spec [] ms

/-- the filter of `Spec.C09.holdsFile` -/
def sel (ms : List Method) (d : Diag) : Bool :=
  d.kind = .error && (idRanges ms).contains d.range && !d.related.isEmpty

/-- hypotheses on ranges (decidable; evaluated by the harness on every case): among everything
    pushed for the file, the Errors with related information on a method's name or code range are
    exactly the id diagnostics, and these come in ascending position -/
def Fresh (g : Groups) (ids : List Diag) : Prop :=
  g.all.filter (sel (methodsOf g.ast)) = ids ∧ SortedBy (fun d => d.range.start.off) ids

instance (g : Groups) (ids : List Diag) : Decidable (Fresh g ids) := by
  unfold Fresh SortedBy; infer_instance

/-- **C09 for the model**: in a validated file, the Errors with related information that sit on a
    method's name or code range are, in order, exactly the specified reports (duplicate name,
    mixed use of ids, duplicate id, each pointing back to the earlier method). -/
theorem holds (ho : HashOrder) (defined : Defined) (fr out : FileResult)
    (h : validateFile ho defined fr = .ok out)
    (fresh : ∀ ast g ids, fr.ast = some ast → validateGroups ho defined fr.diags ast = .ok g →
      idDiagsLoop {} (methodsOf g.ast) = .ok ids → Fresh g ids) :
    holdsFile out = true := by
  obtain ⟨hast, rfl⟩ | ⟨ast, g, hast, hg, rfl⟩ := validateFile_eq_ok h
  · simp [holdsFile, hast]
  obtain ⟨ids, hids, hspec⟩ := ids_spec_all (methodsOf g.ast)
  obtain ⟨hsel, hsorted⟩ := fresh ast g ids hast hg hids
  simp only [holdsFile, beq_iff_eq]
  rw [← hspec, ← stableSortBy_of_sorted _ _ hsorted, ← hsel, ← stableSortBy_filter_comm]
  rfl

/-- non-vacuity and the statement's own example shapes, by evaluation -/
example :
    let r (n : Nat) : Range := ⟨⟨n, 1, n⟩, ⟨n + 1, 1, n + 1⟩⟩
    let mk (name : String) (code : Option Nat) (n : Nat) : Method :=
      { oneway := false, name := name, returnType := .mk "void" .void [] (r n) (r n), args := [],
        annotations := [], transactCode := code, doc := none, sym := r (n + 2), full := r n,
        transactCodeRange := r (n + 4), onewayRange := r n }
    -- a(), a()=1, b()=1, c() : duplicate name at the 2nd; mixed at the 3rd (pointing to the 1st); nothing at the 4th
    spec [mk "a" none 0, mk "a" (some 1) 10, mk "b" (some 1) 20, mk "c" none 30]
      = [(r 12, r 2), (r 24, r 4)] := by
  decide

end Aidl.Props.C09
