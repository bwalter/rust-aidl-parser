import AidlVerif.Props.LexWords

/-!
Punctuation, string literals and annotations are one token each, for every text, from the table alone. `next_unique`: when
one non-skipped entry matches a non-empty prefix and no other entry matches anything non-empty, that prefix is the token;
`othersMissAt j cls`, which the kernel evaluates over THIS run's table, says that no entry but `j` can begin with a
character of `cls`. Where no entry matches anything non-empty the lexer reports `InvalidToken`: at a character no entry
can begin with, and at the quote of an unterminated string literal.
-/

open Aidl.Regex Aidl.Lexer Aidl.Javadoc Aidl.Props.JavadocTotal Aidl.Props.LexerBounds
  Aidl.Props.RegexSound Aidl.Props.JavadocSpec Aidl.Props.SkipEntries Aidl.Props.LexSkip Aidl.Props.LexerFuel
  Aidl.Props.LexIdent

namespace Aidl.Props.LexTokens

theorem next_unique (table : LexTable) (fuel : Nat) (pre rest : List Char) (p j : Nat) (hj : j < table.size)
    (hns : table[j]!.2 = false) (hpre : pre ≠ [])
    (hm : matchAt table[j]!.1 (fuel + 1) (pre ++ rest) p = some (p + utf8Len pre))
    (hothers : ∀ i, i ≠ j → matchAt table[i]!.1 (fuel + 1) (pre ++ rest) p = none
      ∨ matchAt table[i]!.1 (fuel + 1) (pre ++ rest) p = some p) :
    next table (fuel + 1) (pre ++ rest) p
      = .token { start := p, index := j, text := String.ofList pre, stop := p + utf8Len pre } rest :=
  next_token_of hpre (bestMatch_single table _ _ p j _ hj (utf8Len_pos hpre) hm hothers) hns

theorem next_single {table : LexTable} {j a : Nat} (hj : j < table.size) (hent : table[j]! = (.cls [(a, a)], false))
    (c : Char) (hc : c.toNat = a) (fuel : Nat) (rest : List Char) (p : Nat)
    (hothers : ∀ i, i ≠ j → EmptyAt table (fuel + 1) (c :: rest) p i) :
    next table (fuel + 1) (c :: rest) p
      = .token { start := p, index := j, text := String.ofList [c], stop := p + c.utf8Size } rest := by
  have hm : matchAt table[j]!.1 (fuel + 1) ([c] ++ rest) p = some (p + utf8Len [c]) := by
    rw [hent]
    simp only [matchAt, List.cons_append, List.nil_append, m, (inCls_single a c).trans (decide_eq_true hc), if_true, utf8Len_cons, utf8Len_nil, Nat.add_zero]
  have := next_unique table fuel [c] rest p j hj (by rw [hent]) (by simp) hm hothers
  simpa only [List.cons_append, List.nil_append, utf8Len_cons, utf8Len_nil, Nat.add_zero] using this

def othersMissAt (j : Nat) (cls : List (Nat × Nat)) : Bool :=
  (List.range Gen.lexTable.size).all fun i => i == j || disjointCls cls (firstCls Gen.lexTable[i]!.1)

theorem others_at (j : Nat) (cls : List (Nat × Nat)) (h : othersMissAt j cls = true) (c : Char) (hc : inCls cls c = true)
    (f : Nat) (s : List Char) (p : Nat) (i : Nat) (hne : i ≠ j) : EmptyAt Gen.lexTable f (c :: s) p i :=
  others_empty (· == j) cls h hc f s p i (by simpa using hne)

def punctEntries : List (Nat × Nat) :=
  (List.range Gen.lexTable.size).filterMap fun j =>
    match Gen.lexTable[j]! with
    | (.cls [(a, b)], false) => if a = b ∧ othersMissAt j [(a, a)] = true then some (j, a) else none
    | _ => none

theorem mem_punctEntries (j a : Nat) : (j, a) ∈ punctEntries ↔
    j < Gen.lexTable.size ∧ Gen.lexTable[j]! = (.cls [(a, a)], false) ∧ othersMissAt j [(a, a)] = true := by
  unfold punctEntries
  simp only [List.mem_filterMap, List.mem_range]
  constructor
  · rintro ⟨j', hlt, hval⟩
    split at hval
    · rename_i a' b' heq
      split at hval
      · rename_i hab
        simp only [Option.some.injEq, Prod.mk.injEq] at hval
        obtain ⟨rfl, rfl⟩ := hval
        obtain ⟨rfl, hmiss⟩ := hab
        exact ⟨hlt, heq, hmiss⟩
      · cases hval
    · cases hval
  · rintro ⟨hj, hent, hmiss⟩
    refine ⟨j, hj, ?_⟩
    rw [hent]
    exact if_pos ⟨rfl, hmiss⟩

theorem next_punct (j a : Nat) (h : (j, a) ∈ punctEntries) (c : Char) (hc : c.toNat = a) (fuel : Nat) (rest : List Char) (p : Nat) :
    next Gen.lexTable (fuel + 1) (c :: rest) p
      = .token { start := p, index := j, text := String.ofList [c], stop := p + c.utf8Size } rest := by
  obtain ⟨hj, hent, hmiss⟩ := (mem_punctEntries j a).mp h
  exact next_single hj hent c hc fuel rest p fun i hne => others_at j _ hmiss c ((inCls_single a c).trans (decide_eq_true hc)) _ _ p i hne

def strIdx : Nat := Gen.lexTable.toList.idxOf (strRe, false)

theorem strIdx_entry : strIdx < Gen.lexTable.size ∧ Gen.lexTable[strIdx]! = (strRe, false) := entry_at_idxOf str_entry

theorem othersMissQuote_ok : othersMissAt strIdx quoteCls = true := by decide +kernel

theorem quote_in : inCls quoteCls '"' = true := by decide

theorem utf8Len_string (body : List Char) : utf8Len ('"' :: body ++ ['"']) = 1 + utf8Len body + 1 := by
  have hsz : ('"' : Char).utf8Size = 1 := by decide
  rw [List.cons_append, utf8Len_cons, utf8Len_append, utf8Len_cons, utf8Len_nil, hsz]
  omega

/-- `next_string`, with the end of the token as the byte length of its text -/
theorem string_token (fuel : Nat) (body rest : List Char) (p : Nat) (hbody : ∀ d ∈ body, isStrBody d = true)
    (hf : (body ++ '"' :: rest).length ≤ fuel + 1) :
    next Gen.lexTable (fuel + 1) ('"' :: body ++ '"' :: rest) p
      = .token { start := p, index := strIdx, text := String.ofList ('"' :: body ++ ['"']),
                 stop := p + utf8Len ('"' :: body ++ ['"']) } rest := by
  have hq : isStrBody '"' = false := by decide
  obtain ⟨htw, hdw⟩ := span_run isStrBody body ('"' :: rest) hbody (fun d u h => by cases h; exact hq)
  have hshape : '"' :: body ++ '"' :: rest = ('"' :: body ++ ['"']) ++ rest := by simp
  have hm : matchAt Gen.lexTable[strIdx]!.1 (fuel + 1) ('"' :: body ++ '"' :: rest) p
      = some (p + utf8Len ('"' :: body ++ ['"'])) := by
    rw [strIdx_entry.2]
    show matchAt strRe (fuel + 1) ('"' :: (body ++ '"' :: rest)) p = _
    rw [matchAt_str (fuel + 1) _ p hf, hdw]
    simp only [if_true, htw, utf8Len_string]
    congr 1
    omega
  rw [hshape] at hm ⊢
  exact next_unique Gen.lexTable fuel _ rest p strIdx strIdx_entry.1 (by rw [strIdx_entry.2]) (by simp) hm
    (fun i hne => by
      rw [← hshape]
      exact others_at strIdx _ othersMissQuote_ok '"' quote_in (fuel + 1) _ p i hne)

theorem next_string (fuel : Nat) (body rest : List Char) (p : Nat) (hbody : ∀ d ∈ body, isStrBody d = true)
    (hf : (body ++ '"' :: rest).length ≤ fuel + 1) :
    next Gen.lexTable (fuel + 1) ('"' :: body ++ '"' :: rest) p
      = .token { start := p, index := strIdx, text := String.ofList ('"' :: body ++ ['"']), stop := p + 1 + utf8Len body + 1 } rest := by
  rw [string_token fuel body rest p hbody hf, utf8Len_string]
  congr 2
  omega

def annIdx : Nat := Gen.lexTable.toList.idxOf (annRe, false)

theorem annIdx_entry : annIdx < Gen.lexTable.size ∧ Gen.lexTable[annIdx]! = (annRe, false) := entry_at_idxOf ann_entry

/-- the instance of `othersMissAt` for `@`, as `othersMissQuote_ok` is the one for `"` -/
theorem othersMissAt_ok : othersMissAt annIdx [(64, 64)] = true := by decide +kernel

theorem utf8Len_ann (c : Char) (t : List Char) : utf8Len ('@' :: c :: t) = 1 + c.utf8Size + utf8Len t := by
  have hsz : ('@' : Char).utf8Size = 1 := by decide
  rw [utf8Len_cons, utf8Len_cons, hsz]
  omega

/-- `next_annotation`, with the end of the token as the byte length of its text -/
theorem ann_token (fuel : Nat) (c : Char) (t rest : List Char) (p : Nat)
    (hc : inCls identStartCls c = true) (ht : ∀ d ∈ t, isIdentPart d = true)
    (hout : ∀ d u, rest = d :: u → isIdentPart d = false) (hf : (t ++ rest).length ≤ fuel + 1) :
    next Gen.lexTable (fuel + 1) ('@' :: c :: t ++ rest) p
      = .token { start := p, index := annIdx, text := String.ofList ('@' :: c :: t), stop := p + utf8Len ('@' :: c :: t) } rest := by
  have hm : matchAt Gen.lexTable[annIdx]!.1 (fuel + 1) ('@' :: c :: (t ++ rest)) p = some (p + utf8Len ('@' :: c :: t)) := by
    rw [annIdx_entry.2, matchAt_ann (fuel + 1) c _ p hf, if_pos hc, (span_run isIdentPart t rest ht hout).1, utf8Len_ann]
    congr 1
    omega
  exact next_unique Gen.lexTable fuel ('@' :: c :: t) rest p annIdx annIdx_entry.1 (by rw [annIdx_entry.2]) (by simp) hm
    (fun i hne => others_at annIdx _ othersMissAt_ok '@' (by decide) (fuel + 1) _ p i hne)

theorem next_annotation (fuel : Nat) (c : Char) (t rest : List Char) (p : Nat)
    (hc : inCls identStartCls c = true) (ht : ∀ d ∈ t, isIdentPart d = true)
    (hout : ∀ d u, rest = d :: u → isIdentPart d = false) (hf : (t ++ rest).length ≤ fuel + 1) :
    next Gen.lexTable (fuel + 1) ('@' :: c :: t ++ rest) p
      = .token { start := p, index := annIdx, text := String.ofList ('@' :: c :: t), stop := p + 1 + c.utf8Size + utf8Len t } rest := by
  rw [ann_token fuel c t rest p hc ht hout hf, utf8Len_ann]
  congr 2
  omega

def nullableSkipped : Bool :=
  (List.range Gen.lexTable.size).all fun i => !LexSkip.nullable Gen.lexTable[i]!.1 || Gen.lexTable[i]!.2

theorem nullableSkipped_ok : nullableSkipped = true := by decide +kernel

theorem next_invalid (fuel : Nat) (c : Char) (s : List Char) (p : Nat)
    (hall : ∀ i, i < Gen.lexTable.size → matchAt Gen.lexTable[i]!.1 (fuel + 1) (c :: s) p = none
      ∨ matchAt Gen.lexTable[i]!.1 (fuel + 1) (c :: s) p = some p) :
    next Gen.lexTable (fuel + 1) (c :: s) p = .invalid p := by
  cases hb : bestMatch Gen.lexTable (fuel + 1) (c :: s) p with
  | none => exact next_none (by simp) hb
  | some b =>
    obtain ⟨L, k⟩ := b
    obtain ⟨hk, ⟨pre, rest, hs, rfl, hw, hm⟩, _⟩ := bestMatch_some hb
    -- the winner matched the empty word, so it is nullable, so it is skipped
    have h0 : utf8Len pre = 0 := by
      have := EmptyAt.eq (hall k hk) hm
      omega
    have hskip : Gen.lexTable[k]!.2 = true := by
      have := List.all_eq_true.mp nullableSkipped_ok k (List.mem_range.mpr hk)
      rwa [LexSkip.matches_nil_nullable hw (utf8Len_eq_zero.mp h0)] at this
    rw [hs] at hb ⊢
    rw [next_step (by rw [← hs]; simp) hb, if_pos hskip, if_pos h0]

def noEntryAt (cls : List (Nat × Nat)) : Bool :=
  (List.range Gen.lexTable.size).all fun i => disjointCls cls (firstCls Gen.lexTable[i]!.1)

theorem next_stray (cls : List (Nat × Nat)) (h : noEntryAt cls = true) (c : Char) (hc : inCls cls c = true)
    (fuel : Nat) (s : List Char) (p : Nat) : next Gen.lexTable (fuel + 1) (c :: s) p = .invalid p := by
  apply next_invalid
  intro i hi
  exact emptyAt_of_disjoint (List.all_eq_true.mp h i (List.mem_range.mpr hi)) hc _ s p

theorem next_string_open (fuel : Nat) (t : List Char) (p : Nat) (hf : t.length ≤ fuel + 1)
    (hopen : ∀ d u, t.dropWhile isStrBody = d :: u → d ≠ '"') :
    next Gen.lexTable (fuel + 1) ('"' :: t) p = .invalid p := by
  apply next_invalid
  intro i hi
  by_cases hne : i = strIdx
  · subst hne
    left
    rw [strIdx_entry.2, matchAt_str (fuel + 1) t p hf]
    split
    · rename_i d u hd
      rw [if_neg (hopen d u hd)]
    · rfl
  · exact others_at strIdx _ othersMissQuote_ok '"' quote_in (fuel + 1) t p i hne

example : noEntryAt [(35, 39)] = true := by decide +kernel          -- # $ % & '
example : noEntryAt [(92, 92), (94, 94), (96, 96), (124, 124), (126, 126)] = true := by decide +kernel   -- \ ^ ` | ~

/-- what the four examples below state, in ONE kernel evaluation of `punctEntries` -/
theorem punctEntries_facts :
    (Gen.lexTable.toList.idxOf (Re.cls [(40, 40)], false), '('.toNat) ∈ punctEntries
    ∧ (Gen.lexTable.toList.idxOf (Re.cls [(59, 59)], false), ';'.toNat) ∈ punctEntries
    ∧ 9 ≤ punctEntries.length
    ∧ punctEntries.all (fun e => e.2 != '-'.toNat && e.2 != '.'.toNat) = true := by decide +kernel

example : (Gen.lexTable.toList.idxOf (Re.cls [(40, 40)], false), '('.toNat) ∈ punctEntries := punctEntries_facts.1
example : (Gen.lexTable.toList.idxOf (Re.cls [(59, 59)], false), ';'.toNat) ∈ punctEntries := punctEntries_facts.2.1
example : 9 ≤ punctEntries.length := punctEntries_facts.2.2.1
-- `-` and `.` are NOT in the list: a number may begin with them, so what follows matters
example : punctEntries.all (fun e => e.2 != '-'.toNat && e.2 != '.'.toNat) = true := punctEntries_facts.2.2.2

end Aidl.Props.LexTokens

/-! A projection of `LexerBounds.next_ok` for every table. It stands here, under the name
`Aidl.Props.RegexSound.next_token_matches`, because `tools/props.py` lists it for C03 under that name and this is the
lowest module of C03's list that imports `LexerBounds`. -/

namespace Aidl.Props.RegexSound

theorem next_token_matches (table : LexTable) (fuel : Nat) (s : List Char) (p : Nat) (t : Token) (rest : List Char)
    (h : next table fuel s p = .token t rest) :
    ∃ tok, Matches table[t.index]!.1 tok ∧ t.text = String.ofList tok := by
  obtain ⟨_, tok, _, _, _, htext, _, _, hw⟩ : NextOk table s p (.token t rest) := h ▸ next_ok table fuel s p
  exact ⟨tok, hw, htext⟩

end Aidl.Props.RegexSound
