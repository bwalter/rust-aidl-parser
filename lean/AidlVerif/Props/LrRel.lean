import AidlVerif.Props.EvalRel
import AidlVerif.Props.LrDriver

/-!
The parser does not look at positions: two runs on texts with the same token sequence.
`StRel`: same state stack, symbols with the same ids and values equal after erasure, and inputs that
lex to the same sequence of (lexer entry, text) pairs (`LexRel`). Every step of the driver preserves
it, unless one of the two runs stops (`OrStop`: panic / step bound — excluded by the totality theorems).
The namespace is that of `ActionsRel`: `tools/props.py` audits `Aidl.Props.Rel.parseLoop_rel` and
`Aidl.Props.Rel.addContent_layout_gen`.
-/

namespace Aidl.Props.Rel
open Aidl Aidl.Lr Aidl.Actions Aidl.Lexer Aidl.Erase Aidl.Props.PL Aidl.Props.LrDriver

variable (T : Tables) (e1 e2 : Env)

inductive LexRel : List Char → Nat → List Char → Nat → Prop
  | eof {i1 p1 i2 p2} : Lexer.next T.lex (i1.length + 1) i1 p1 = .eof → Lexer.next T.lex (i2.length + 1) i2 p2 = .eof →
      LexRel i1 p1 i2 p2
  | invalid {i1 p1 i2 p2 l1 l2} : Lexer.next T.lex (i1.length + 1) i1 p1 = .invalid l1 →
      Lexer.next T.lex (i2.length + 1) i2 p2 = .invalid l2 → LexRel i1 p1 i2 p2
  | tok {i1 p1 i2 p2 t1 r1 t2 r2} : Lexer.next T.lex (i1.length + 1) i1 p1 = .token t1 r1 →
      Lexer.next T.lex (i2.length + 1) i2 p2 = .token t2 r2 → t1.index = t2.index → t1.text = t2.text →
      LexRel r1 t1.stop r2 t2.stop → LexRel i1 p1 i2 p2

def symEr (x : Sym) : Nat × Val := (x.id, erVal x.val)

structure StRel (s1 s2 : St) : Prop where
  states : s1.states = s2.states
  syms : s1.syms.map symEr = s2.syms.map symEr
  lex : LexRel T s1.input s1.pos s2.input s2.pos

def ORel : Outcome → Outcome → Prop
  | .accept v1, .accept v2 => erVal v1 = erVal v2
  | .error _, .error _ => True
  | .accept _, .error _ => False
  | .error _, .accept _ => False
  | _, _ => True

theorem ORel.of_stop_left {o1 o2 : Outcome} (h : LrComplete.Stops o1) : ORel o1 o2 := by
  cases o1 <;> first | exact h.elim | (cases o2 <;> trivial)
theorem ORel.of_stop_right {o1 o2 : Outcome} (h : LrComplete.Stops o2) : ORel o1 o2 := by
  cases o2 <;> first | exact h.elim | (cases o1 <;> trivial)

def TokRel (t1 t2 : Token) : Prop := t1.index = t2.index ∧ t1.text = t2.text

def OrStop {α : Type} (R : St → α → St → α → Prop) : Step α → Step α → Prop
  | (s1, .inl a1), (s2, .inl a2) => R s1 a1 s2 a2
  | (_, .inr o1), (_, .inr o2) => ORel o1 o2
  | (_, .inr o1), (_, .inl _) => LrComplete.Stops o1
  | (_, .inl _), (_, .inr o2) => LrComplete.Stops o2

variable {α β : Type} {R : St → α → St → α → Prop}

theorem OrStop.stop_left {s : St} {o : Outcome} (h : LrComplete.Stops o) (r : Step α) : OrStop R (s, .inr o) r := by
  obtain ⟨s2, x⟩ := r
  cases x with
  | inl a => exact h
  | inr o2 => exact ORel.of_stop_left h

theorem OrStop.stop_right {s : St} {o : Outcome} (h : LrComplete.Stops o) (r : Step α) : OrStop R r (s, .inr o) := by
  obtain ⟨s1, x⟩ := r
  cases x with
  | inl a => exact h
  | inr o1 => exact ORel.of_stop_right h

theorem OrStop.bind {R' : St → β → St → β → Prop} {r1 r2 : Step α} {k1 k2 : St → α → Step β} (h : OrStop R r1 r2)
    (hk : ∀ s1 a1 s2 a2, R s1 a1 s2 a2 → OrStop R' (k1 s1 a1) (k2 s2 a2)) : OrStop R' (r1.bind k1) (r2.bind k2) := by
  obtain ⟨s1, x1⟩ := r1
  obtain ⟨s2, x2⟩ := r2
  cases x1 with
  | inl a1 =>
    cases x2 with
    | inl a2 => exact hk s1 a1 s2 a2 h
    | inr o2 => exact OrStop.stop_right h _
  | inr o1 =>
    cases x2 with
    | inl a2 => exact OrStop.stop_left h _
    | inr o2 => exact h

theorem OrStop.extra {r1 r2 : Step α} (x1 x2 : Token × Nat) (h : OrStop R r1 r2) :
    OrStop R (r1.mapEnd (endOutcome (some x1))) (r2.mapEnd (endOutcome (some x2))) := by
  obtain ⟨s1, y1⟩ := r1
  obtain ⟨s2, y2⟩ := r2
  cases y1 with
  | inl a1 =>
    cases y2 with
    | inl a2 => exact h
    | inr o2 => cases o2 <;> first | exact h.elim | trivial
  | inr o1 =>
    cases y2 with
    | inl a2 => cases o1 <;> first | exact h.elim | trivial
    | inr o2 => cases o1 <;> cases o2 <;> first | trivial | exact h.elim | exact h

def GoOn {α : Type} (s1 : St) (_ : α) (s2 : St) (_ : α) : Prop := StRel T s1 s2

def LaRel : Option Token → Option Token → Prop
  | some t1, some t2 => TokRel t1 t2
  | none, none => True
  | _, _ => False

def NextR (s1 : St) (a1 : La) (s2 : St) (a2 : La) : Prop :=
  StRel T s1 s2 ∧ a1.map (·.2) = a2.map (·.2) ∧ LaRel (a1.map (·.1)) (a2.map (·.1))

def FindR (s1 : St) (x1 : Found) (s2 : St) (x2 : Found) : Prop :=
  StRel T s1 s2 ∧ x1.1 = x2.1 ∧ x1.2.2.1 = x2.2.2.1 ∧ LaRel x1.2.1 x2.2.1

theorem NextR.la {s1 s2 : St} {a1 a2 : La} (h : NextR T s1 a1 s2 a2) :
    (a1 = none ∧ a2 = none) ∨ ∃ l1 l2 c, a1 = some (l1, c) ∧ a2 = some (l2, c) ∧ TokRel l1 l2 := by
  obtain ⟨_, hc, hl⟩ := h
  cases a1 with
  | none =>
    cases a2 with
    | none => exact Or.inl ⟨rfl, rfl⟩
    | some _ => exact hl.elim
  | some x1 =>
    cases a2 with
    | none => exact hl.elim
    | some x2 =>
      obtain ⟨l1, c1⟩ := x1
      obtain ⟨l2, c2⟩ := x2
      obtain rfl : c1 = c2 := Option.some.inj hc
      exact Or.inr ⟨l1, l2, c1, rfl, rfl, hl⟩

theorem nextToken_rel (s1 s2 : St) (h : StRel T s1 s2) :
    OrStop (NextR T) (ofNext (nextToken T s1)) (ofNext (nextToken T s2)) := by
  unfold nextToken
  cases h.lex with
  | eof h1 h2 =>
    rw [h1, h2]
    exact ⟨h, rfl, trivial⟩
  | invalid h1 h2 =>
    rw [h1, h2]
    trivial
  | tok h1 h2 hi ht hr =>
    rename_i t1 r1 t2 r2
    rw [h1, h2]
    dsimp only
    rw [hi]
    cases T.tokToCol.lookup t2.index with
    | none => trivial
    | some c => exact ⟨⟨h.states, h.syms, hr⟩, rfl, hi, ht⟩

theorem syms_ids {l1 l2 : List Sym} (h : l1.map symEr = l2.map symEr) : l1.map (·.id) = l2.map (·.id) := by
  have := congrArg (List.map Prod.fst) h
  simpa [List.map_map, symEr, Function.comp_def] using this

theorem syms_vals {l1 l2 : List Sym} (h : l1.map symEr = l2.map symEr) :
    l1.map (fun x => erVal x.val) = l2.map (fun x => erVal x.val) := by
  have := congrArg (List.map Prod.snd) h
  simpa [List.map_map, symEr, Function.comp_def] using this

theorem syms_len {l1 l2 : List Sym} (h : l1.map symEr = l2.map symEr) : l1.length = l2.length := by
  have := congrArg List.length h
  simpa using this

theorem syms_take_rev {l1 l2 : List Sym} (h : l1.map symEr = l2.map symEr) (k : Nat) :
    ((l1.take k).reverse).map symEr = ((l2.take k).reverse).map symEr := by
  rw [List.map_reverse, List.map_reverse, List.map_take, List.map_take, h]

theorem syms_drop {l1 l2 : List Sym} (h : l1.map symEr = l2.map symEr) (k : Nat) :
    (l1.drop k).map symEr = (l2.drop k).map symEr := by
  rw [List.map_drop, List.map_drop, h]

theorem reduceArgs_rel {p1 p2 : List Sym} (h : p1.map symEr = p2.map symEr) (a b c d : Nat) :
    ArgsRel (reduceArgs p1 a b) (reduceArgs p2 c d) := by
  unfold reduceArgs ArgsRel
  rw [syms_len h]
  split
  · rfl
  · have := syms_vals h
    simp only [List.map_map, Function.comp_def, erArgV]
    have h2 := congrArg (List.map (fun v => ArgV.triple 0 v 0)) this
    simpa [List.map_map, Function.comp_def] using h2

theorem reduceCore_rel (s1 s2 : St) (h : StRel T s1 s2) (prod : Production) (la1 la2 : Option Nat) :
    OrStop (GoOn T (α := Unit)) (ofRed (reduceCore T e1 s1 prod la1)) (ofRed (reduceCore T e2 s2 prod la2)) := by
  unfold reduceCore
  dsimp only
  -- the positions handed to the action are free
  generalize reduceStart _ _ la1 = a1
  generalize reduceStop _ a1 = b1
  generalize reduceStart _ _ la2 = a2
  generalize reduceStop _ a2 = b2
  have hrel := evalAction_rel (e1 := e1) (e2 := e2) T.actions 16 prod.action _ _
    (reduceArgs_rel (syms_take_rev h.syms prod.rhs.length) a1 b1 a2 b2) s1.diags s2.diags
  unfold runM at hrel
  revert hrel
  cases (ReaderT.run (evalAction T.actions 16 prod.action _) e1).run s1.diags with
  | error p1 => intro _; exact OrStop.stop_left (o := .actionPanic p1) trivial _
  | ok r1 =>
    obtain ⟨v1, d1⟩ := r1
    cases (ReaderT.run (evalAction T.actions 16 prod.action _) e2).run s2.diags with
    | error p2 => intro _; exact OrStop.stop_right (o := .actionPanic p2) trivial _
    | ok r2 =>
      obtain ⟨v2, d2⟩ := r2
      intro hv
      dsimp only at hv ⊢
      unfold reducePush
      dsimp only
      by_cases hacc : prod.accept = true
      · rw [if_pos hacc, if_pos hacc]; exact hv
      · rw [if_neg hacc, if_neg hacc]
        rw [h.states]
        by_cases hlt : s2.states.length < prod.pops + 1
        · rw [if_pos hlt, if_pos hlt]; trivial
        · rw [if_neg hlt, if_neg hlt]
          refine ⟨rfl, ?_, h.lex⟩
          simp only [List.map_cons, symEr, List.cons.injEq, Prod.mk.injEq, true_and]
          exact ⟨hv, syms_drop h.syms _⟩

theorem reduce_rel (s1 s2 : St) (h : StRel T s1 s2) (p : Nat) (la1 la2 : Option Nat) :
    OrStop (GoOn T (α := Unit)) (ofRed (reduce T e1 s1 p la1)) (ofRed (reduce T e2 s2 p la2)) := by
  unfold reduce
  cases T.prods[p]? with
  | none => trivial
  | some prod =>
    dsimp only
    rw [syms_len h.syms]
    by_cases hlt : s2.syms.length < prod.rhs.length
    · rw [if_pos hlt, if_pos hlt]; trivial
    · rw [if_neg hlt, if_neg hlt]
      have hids := syms_ids (syms_take_rev h.syms prod.rhs.length)
      rw [hids]
      split
      · trivial
      · exact reduceCore_rel T e1 e2 s1 s2 h prod la1 la2

theorem topState_eq {s1 s2 : St} (h : StRel T s1 s2) : topState s1 = topState s2 := by
  unfold topState; rw [h.states]

theorem reduceOnError_rel (la1 la2 : Option Token) :
    ∀ (f1 f2 : Nat) (s1 s2 : St), StRel T s1 s2 →
      OrStop (GoOn T (α := Unit)) (ofRed (reduceOnError T e1 la1 s1 f1)) (ofRed (reduceOnError T e2 la2 s2 f2)) := by
  intro f1
  induction f1 with
  | zero => intro f2 s1 s2 _; exact OrStop.stop_left (o := .fuelOut) trivial _
  | succ f1 ih =>
    intro f2 s1 s2 h
    cases f2 with
    | zero => exact OrStop.stop_right (o := .fuelOut) trivial _
    | succ f2 =>
      rw [reduceOnError_succ, reduceOnError_succ, topState_eq T h]
      cases asReduce (errorAction T (topState s2)) with
      | none => exact h
      | some r =>
        exact (reduce_rel T e1 e2 s1 s2 h r _ _).bind fun s1' _ s2' _ hs => ih f2 s1' s2' hs

theorem errorCandidate_congr {s1 s2 : St} (h : s1.states = s2.states) (n : Nat) (col : Option Nat) :
    errorCandidate T n s1 col = errorCandidate T n s2 col := by
  unfold errorCandidate; rw [h]

theorem findState_rel (err1 err2 : ParseErr) (n : Nat) :
    ∀ (f1 f2 : Nat) (s1 s2 : St) (la1 la2 : Option Token) (col : Option Nat) (d1 d2 : List Token),
      StRel T s1 s2 → LaRel la1 la2 →
      OrStop (FindR T) (ofFind (findState T err1 n s1 la1 col d1 f1)) (ofFind (findState T err2 n s2 la2 col d2 f2)) := by
  intro f1
  induction f1 with
  | zero => intro f2 s1 s2 la1 la2 col d1 d2 _ _; exact OrStop.stop_left (o := .fuelOut) trivial _
  | succ f1 ih =>
    intro f2 s1 s2 la1 la2 col d1 d2 h hla
    cases f2 with
    | zero => exact OrStop.stop_right (o := .fuelOut) trivial _
    | succ f2 =>
      rw [findState_succ, findState_succ, errorCandidate_congr T h.states]
      cases errorCandidate T n s2 col with
      | some top => exact ⟨h, rfl, rfl, hla⟩
      | none =>
        cases la1 with
        | none =>
          cases la2 with
          | none => trivial
          | some _ => exact hla.elim
        | some l1 =>
          cases la2 with
          | none => exact hla.elim
          | some l2 =>
            refine (nextToken_rel T s1 s2 h).bind fun s1' a1 s2' a2 ha => ?_
            rw [ha.2.1]
            exact ih f2 s1' s2' _ _ _ _ _ ha.1 ha.2.2

theorem syms_rev_take {l1 l2 : List Sym} (h : l1.map symEr = l2.map symEr) (k : Nat) :
    ((l1.reverse.take k).reverse).map symEr = ((l2.reverse.take k).reverse).map symEr := by
  rw [List.map_reverse, List.map_reverse, List.map_take, List.map_take, List.map_reverse, List.map_reverse, h]

theorem recoverPush_rel (err1 err2 : ParseErr) (n : Nat) (s1 s2 : St) (top : Nat) (la1 la2 : Option Token)
    (col : Option Nat) (d1 d2 : List Token) (h : StRel T s1 s2) (hla : LaRel la1 la2) :
    OrStop (NextR T) (ofNext (recoverPush T err1 n s1 top la1 col d1)) (ofNext (recoverPush T err2 n s2 top la2 col d2)) := by
  unfold recoverPush
  dsimp only
  rw [h.states]
  cases asShift (errorAction T ((s2.states.drop (n - 1 - top)).headD 0)) with
  | none => trivial
  | some errState =>
    dsimp only
    have hst : ∀ (a b c d : Nat), StRel T
        { s1 with states := errState :: s2.states.drop (n - 1 - top), recovered := true,
                  syms := { start := a, id := T.ncols - 1, name := "error", val := .recovery err1 d1, stop := b } :: (s1.syms.reverse.take top).reverse }
        { s2 with states := errState :: s2.states.drop (n - 1 - top), recovered := true,
                  syms := { start := c, id := T.ncols - 1, name := "error", val := .recovery err2 d2, stop := d } :: (s2.syms.reverse.take top).reverse } := by
      intro a b c d
      refine ⟨rfl, ?_, h.lex⟩
      simp only [List.map_cons, symEr, erVal, List.cons.injEq, true_and]
      exact syms_rev_take h.syms top
    cases la1 with
    | none =>
      cases la2 with
      | some _ => exact hla.elim
      | none =>
        cases col with
        | none => exact ⟨hst _ _ _ _, rfl, trivial⟩
        | some c => trivial
    | some l1 =>
      cases la2 with
      | none => exact hla.elim
      | some l2 =>
        cases col with
        | none => trivial
        | some c => exact ⟨hst _ _ _ _, rfl, hla⟩

theorem errorRecovery_rel (s1 s2 : St) (la1 la2 : Option Token) (col : Option Nat) (f1 f2 : Nat)
    (h : StRel T s1 s2) (hla : LaRel la1 la2) :
    OrStop (NextR T) (ofNext (errorRecovery T e1 s1 la1 col f1)) (ofNext (errorRecovery T e2 s2 la2 col f2)) := by
  rw [errorRecovery_eq, errorRecovery_eq]
  refine (reduceOnError_rel T e1 e2 la1 la2 f1 f2 s1 s2 h).bind fun s1' _ s2' _ hs => ?_
  rw [hs.states]
  refine (findState_rel T _ _ _ f1 f2 s1' s2' la1 la2 col [] [] hs hla).bind fun t1 x1 t2 x2 hx => ?_
  rw [hx.2.1, hx.2.2.1]
  exact recoverPush_rel T _ _ _ t1 t2 _ _ _ _ _ _ hx.1 hx.2.2.2

theorem parseEof_rel : ∀ (f1 f2 : Nat) (s1 s2 : St), StRel T s1 s2 →
    ORel (parseEof T e1 s1 f1).2 (parseEof T e2 s2 f2).2 := by
  intro f1
  induction f1 with
  | zero => intro f2 s1 s2 _; exact ORel.of_stop_left (o1 := .fuelOut) trivial
  | succ f1 ih =>
    intro f2 s1 s2 h
    cases f2 with
    | zero => exact ORel.of_stop_right (o2 := .fuelOut) trivial
    | succ f2 =>
      show OrStop (GoOn T (α := Empty)) (ofEnd (parseEof T e1 s1 (f1 + 1))) (ofEnd (parseEof T e2 s2 (f2 + 1)))
      rw [parseEof_succ, parseEof_succ, topState_eq T h]
      cases asReduce (eofActionAt T (topState s2)) with
      | some r => exact (reduce_rel T e1 e2 s1 s2 h r none none).bind fun s1' _ s2' _ hs => ih f2 s1' s2' hs
      | none =>
        refine (errorRecovery_rel T e1 e2 s1 s2 none none none f1 f2 h trivial).bind fun s1' a1 s2' a2 ha => ?_
        rcases ha.la with ⟨rfl, rfl⟩ | ⟨_, _, _, rfl, rfl, _⟩
        · exact ih f2 s1' s2' ha.1
        · trivial

theorem parseInner_rel : ∀ (f1 f2 : Nat) (s1 s2 : St) (la1 la2 : Token) (col : Nat), StRel T s1 s2 → TokRel la1 la2 →
    OrStop (GoOn T (α := Unit)) (parseInner T e1 s1 la1 col f1) (parseInner T e2 s2 la2 col f2) := by
  intro f1
  induction f1 with
  | zero => intro f2 s1 s2 la1 la2 col _ _; exact OrStop.stop_left (o := .fuelOut) trivial _
  | succ f1 ih =>
    intro f2 s1 s2 la1 la2 col h hla
    cases f2 with
    | zero => exact OrStop.stop_right (o := .fuelOut) trivial _
    | succ f2 =>
      rw [parseInner_succ, parseInner_succ, topState_eq T h]
      cases asShift (actionAt T (topState s2) col) with
      | some target =>
        refine ⟨by rw [shifted, shifted, h.states], ?_, h.lex⟩
        simp only [shifted, List.map_cons, symEr, erVal, List.cons.injEq, Prod.mk.injEq, true_and]
        exact ⟨by rw [hla.2], h.syms⟩
      | none =>
        cases asReduce (actionAt T (topState s2) col) with
        | some r =>
          exact ((reduce_rel T e1 e2 s1 s2 h r _ _).extra _ _).bind fun s1' _ s2' _ hs => ih f2 s1' s2' la1 la2 col hs hla
        | none =>
          refine (errorRecovery_rel T e1 e2 s1 s2 (some la1) (some la2) (some col) f1 f2 h hla).bind
            fun s1' a1 s2' a2 ha => ?_
          rcases ha.la with ⟨rfl, rfl⟩ | ⟨l1', l2', c', rfl, rfl, hla'⟩
          · exact parseEof_rel T e1 e2 f1 f2 s1' s2' ha.1
          · exact ih f2 s1' s2' l1' l2' c' ha.1 hla'

theorem parseLoop_rel : ∀ (f1 f2 : Nat) (s1 s2 : St), StRel T s1 s2 →
    ORel (parseLoop T e1 s1 f1).2 (parseLoop T e2 s2 f2).2 := by
  intro f1
  induction f1 with
  | zero => intro f2 s1 s2 _; exact ORel.of_stop_left (o1 := .fuelOut) trivial
  | succ f1 ih =>
    intro f2 s1 s2 h
    cases f2 with
    | zero => exact ORel.of_stop_right (o2 := .fuelOut) trivial
    | succ f2 =>
      show OrStop (GoOn T (α := Empty)) (ofEnd (parseLoop T e1 s1 (f1 + 1))) (ofEnd (parseLoop T e2 s2 (f2 + 1)))
      rw [parseLoop_succ, parseLoop_succ]
      refine (nextToken_rel T s1 s2 h).bind fun s1' a1 s2' a2 ha => ?_
      rcases ha.la with ⟨rfl, rfl⟩ | ⟨l1, l2, c, rfl, rfl, hla⟩
      · exact parseEof_rel T e1 e2 f1 f2 s1' s2' ha.1
      · exact (parseInner_rel T e1 e2 f1 f2 s1' s2' l1 l2 c ha.1 hla).bind fun t1 _ t2 _ hs => ih f2 t1 t2 hs

/-- **The tree depends only on the token sequence** (generic over the tables): two texts that lex to
    the same sequence of tokens, parsed in any two environments — if both calls of `add_content`
    return, the trees are equal up to positions and documentation (or both absent). -/
theorem addContent_layout_gen (id1 id2 text1 text2 : String) (r1 r2 : FileResult)
    (hlex : LexRel T text1.toList 0 text2.toList 0)
    (h1 : addContentE T e1 id1 text1 = .ok r1) (h2 : addContentE T e2 id2 text2 = .ok r2) :
    r1.ast.map erAidl = r2.ast.map erAidl := by
  have hrel := parseLoop_rel T e1 e2 (parseFuel text1) (parseFuel text2) { input := text1.toList } { input := text2.toList }
    ⟨rfl, rfl, hlex⟩
  have hf1 := finishE_finished h1
  have hf2 := finishE_finished h2
  generalize parseLoop T e1 { input := text1.toList } (parseFuel text1) = p1 at hf1 hrel
  generalize parseLoop T e2 { input := text2.toList } (parseFuel text2) = p2 at hf2 hrel
  obtain ⟨t1, o1⟩ := p1
  obtain ⟨t2, o2⟩ := p2
  -- both accepted (then the values agree after erasure) or both reported a parse error
  cases hf1 with
  | none =>
    cases hf2 with
    | none => rfl
    | tree b => simp [ORel, erVal] at hrel
    | err _ _ _ _ => exact hrel.elim
  | tree a =>
    cases hf2 with
    | none => simp [ORel, erVal] at hrel
    | tree b =>
      have : erAidl a = erAidl b := by simpa [ORel, erVal] using hrel
      simp [this]
    | err _ _ _ _ => exact hrel.elim
  | err _ _ _ _ =>
    cases hf2 with
    | none => exact hrel.elim
    | tree b => exact hrel.elim
    | err _ _ _ _ => rfl

end Aidl.Props.Rel
