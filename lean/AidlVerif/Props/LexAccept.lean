import AidlVerif.Props.LexSpec
import AidlVerif.Props.C03Complete

/-!
`layout_accepted` (C03): a text that is lexemes separated by skipped text (`LexesTo`, a relation on the text) whose
lexemes' columns are derivable from the accepting production of the grammar is accepted by the model's `add_content`
in a run in which error recovery never ran, whatever the layout. The hypothesis of `C03Complete.wellformed_accepted`
that evaluates the lexer is discharged by the lexical specification.
-/

namespace Aidl.Props.LexAccept
open Aidl Aidl.Lr Aidl.Actions Aidl.Erase Aidl.Props.LrInv
open Aidl.Lexer Aidl.Props.LexSpec

/-- the columns of the ACTION table of a list of tokens -/
def colsOf (T : Tables) : List (Nat × String) → Option (List Nat)
  | [] => some []
  | t :: ts =>
    match T.tokToCol.lookup t.1 with
    | none => none
    | some c => (colsOf T ts).map (c :: ·)

theorem lexColsOf_eq (T : Tables) : ∀ (f : Nat) (i : List Char) (p : Nat) (toks : List (Nat × String)),
    lexToks T f i p = some (toks, true) → C03Complete.lexColsOf T f i p = colsOf T toks := by
  intro f
  induction f with
  | zero => intro i p toks h; cases h
  | succ f ih =>
    intro i p toks h
    unfold lexToks at h
    unfold C03Complete.lexColsOf
    cases hn : Lexer.next T.lex (i.length + 1) i p with
    | eof =>
      rw [hn] at h
      cases h
      rfl
    | invalid l =>
      rw [hn] at h
      cases h
    | token t r =>
      rw [hn] at h
      simp only [Option.map_eq_some_iff, Prod.mk.injEq] at h
      obtain ⟨⟨ts, b⟩, hr, rfl, rfl⟩ := h
      simp only [colsOf, ih r t.stop ts hr]
      cases List.lookup t.index T.tokToCol <;> rfl

theorem lexColsOf_of_lexToks (T : Tables) : ∀ (f : Nat) (i : List Char) (p : Nat) (toks : List (Nat × String)) (w : List Nat),
    lexToks T f i p = some (toks, true) → colsOf T toks = some w → C03Complete.lexColsOf T f i p = some w := by
  intro f i p toks w h hc
  rw [lexColsOf_eq T f i p toks h, hc]

theorem layout_accepted (env : Env) (id text : String) (hE : EnvOk env text.toList) (toks : List (Nat × String)) (w : List Nat)
    (hl : LexesTo text.toList toks) (hc : colsOf Driver.Parse.tables toks = some w)
    (hd : LrSound.Derives Driver.Parse.tables w) :
    ∃ r v, addContentE Driver.Parse.tables env id text = .ok r
      ∧ (parseLoop Driver.Parse.tables env { input := text.toList } (parseFuel text)).2 = .accept v
      ∧ (parseLoop Driver.Parse.tables env { input := text.toList } (parseFuel text)).1.recovered = false :=
  C03Complete.wellformed_accepted env id text hE w
    (lexColsOf_of_lexToks _ _ _ _ _ _ (lexToks_of_lexesTo hl _ 0 (Nat.lt_succ_self _)) hc) hd

end Aidl.Props.LexAccept
