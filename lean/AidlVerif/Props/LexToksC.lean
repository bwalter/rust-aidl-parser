import AidlVerif.Model.Lr
import AidlVerif.Props.LexerBounds

/-!
`lexToksC` is `Lr.lexToks` with the text of each token read off the input between the token's offsets, as a list of
characters. Equality of strings is dear to evaluate in the kernel (UTF-8 byte arrays), equality of character lists is
not: two texts have the same `lexToks` when they have the same `lexToksC` (`lexToks_same`).
-/

namespace Aidl.Props.LexToksC
open Aidl Aidl.Lr Aidl.Lexer Aidl.Javadoc Aidl.Props.JavadocTotal Aidl.Props.LexerBounds

def lexToksC (T : Tables) : Nat → List Char → Nat → Option (List (Nat × List Char) × Bool)
  | 0, _, _ => none
  | f + 1, i, p =>
    match Lexer.next T.lex (i.length + 1) i p with
    | .eof => some ([], true)
    | .invalid _ => some ([], false)
    | .token t r =>
      (lexToksC T f r t.stop).map fun le =>
        ((t.index, (splitBytes (t.stop - t.start) (splitBytes (t.start - p) i).2).1) :: le.1, le.2)

def strs (le : List (Nat × List Char) × Bool) : List (Nat × String) × Bool :=
  (le.1.map fun t => (t.1, String.ofList t.2), le.2)

theorem lexToks_eq (T : Tables) : ∀ (f : Nat) (i : List Char) (p : Nat), lexToks T f i p = (lexToksC T f i p).map strs := by
  intro f
  induction f with
  | zero => intro i p; rfl
  | succ f ih =>
    intro i p
    unfold lexToks lexToksC
    cases hn : Lexer.next T.lex (i.length + 1) i p with
    | eof => rfl
    | invalid l => rfl
    | token t r =>
      -- the text of the token is the slice of the input between its offsets
      obtain ⟨sk, tok, rfl, h2, h3, h4⟩ := next_token_slice _ _ _ _ _ _ hn
      have e1 : t.start - p = utf8Len sk := by omega
      have e2 : t.stop - t.start = utf8Len tok := by omega
      simp only [ih, e1, e2, List.append_assoc, splitBytes_prefix, h4]
      cases lexToksC T f r t.stop <;> rfl

theorem lexToks_same (T : Tables) {f1 f2 : Nat} {i1 i2 : List Char} {p1 p2 : Nat}
    (h : lexToksC T f1 i1 p1 = lexToksC T f2 i2 p2) : lexToks T f1 i1 p1 = lexToks T f2 i2 p2 := by
  rw [lexToks_eq, lexToks_eq, h]

theorem lexToks_isSome (T : Tables) (f : Nat) (i : List Char) (p : Nat) :
    (lexToks T f i p).isSome = (lexToksC T f i p).isSome := by
  rw [lexToks_eq, Option.isSome_map]

end Aidl.Props.LexToksC
