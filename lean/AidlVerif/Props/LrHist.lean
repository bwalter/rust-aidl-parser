import AidlVerif.Props.LrCompleteDriver

/-!
Ghost field `hist` (the ACTION columns of the tokens shifted so far) against the lexer: while error
recovery has not run, `hist ++ [pending lookahead] ++ (columns of the rest of the input)` is the token
sequence of the whole text (`HMode` says it for whatever the rest lexes to; recovery sets `recovered`, and nothing is
claimed from then on). So `LrSound.accepted_derives` (the shifted tokens are derivable) speaks about the text.
-/

namespace Aidl.Props.LrHist
open Aidl Aidl.Lr Aidl.Actions Aidl.Lexer Aidl.Props.LrComplete Aidl.Props.LrDriver

variable (T : Tables) (env : Env)

/-- checked on the tables of the run (`C03Complete.errCol_run`) -/
def ErrColOk : Prop :=
  ∀ q p prod, asReduce (errorAction T q) = some p → T.prods[p]? = some prod → prod.accept = false

def HMode (text : List Char) : Mode → St → Prop
  | .read, s => s.recovered = false → ∀ w, LexCols T s.input s.pos w → LexCols T text 0 (s.hist ++ w)
  | .look (some (_, c)), s => s.recovered = false → ∀ w, LexCols T s.input s.pos w → LexCols T text 0 (s.hist ++ c :: w)
  | .look none, s => s.recovered = false → LexCols T text 0 s.hist
  | .recover .., _ => True

def HEnd (text : List Char) (s : St) (o : Outcome) : Prop :=
  ∀ v, o = .accept v → s.recovered = false → LexCols T text 0 s.hist

theorem h_invariant (hE : ErrColOk T) (text : List Char) : Invariant T env (HMode T text) (HEnd T text) where
  fuel _ _ _ := nofun
  lex s h := by
    unfold nextToken
    cases hl : Lexer.next T.lex (s.input.length + 1) s.input s.pos with
    | eof => exact fun hrec => List.append_nil s.hist ▸ h hrec [] (.eof hl)
    | invalid l => exact nofun
    | token t r =>
      dsimp only
      cases hc : T.tokToCol.lookup t.index with
      | none => exact nofun
      | some c => exact fun hrec w hw => h hrec (c :: w) (.tok hl hc hw)
  shift s _ c _ h _ := by
    intro hrec w hw
    show LexCols T text 0 ((s.hist ++ [c]) ++ w)
    rw [List.append_assoc]
    exact h hrec w hw
  reduce s la r h _ := by
    refine (reduce_cases T env s r _).imp ?_ ?_
    · rintro s' _ ⟨_, _, _, _, hin, hpos, hrec, hhist⟩
      cases la with
      | none => exact fun hr => hhist ▸ h (hrec ▸ hr)
      | some lc =>
        intro hr
        rw [hhist, hin, hpos]
        exact h (hrec ▸ hr)
    · rintro s' o (hstop | ⟨v, _, rfl, _, _, hrec, hhist⟩)
      · intro v hv
        have := stops_endOutcome la hstop
        rw [hv] at this
        exact this.elim
      · cases la with
        | none => exact fun _ _ hr => hhist ▸ h (hrec ▸ hr)
        | some lc => exact nofun
  enter _ _ _ := trivial
  reduceErr s e la r _ hr := by
    refine (reduce_cases T env s r _).imp (fun _ _ _ => trivial) ?_
    rintro s' o (hstop | ⟨v, prod, rfl, hp, hacc, _⟩)
    · rintro v rfl
      exact hstop.elim
    · rw [hE _ _ _ hr hp] at hacc
      cases hacc
  drop s _ _ _ _ _ := (nextToken_ends T s).imp (fun _ _ _ => trivial) (by rintro _ _ ⟨e, rfl⟩; exact nofun)
  giveUp _ _ _ _ := nofun
  push _ _ _ la _ _ _ _ _ := by cases la <;> exact nofun

theorem accepted_lexcols (hE : ErrColOk T) (text : List Char) (fuel : Nat) (v : Val)
    (ha : (parseLoop T env { input := text } fuel).2 = .accept v)
    (hr : (parseLoop T env { input := text } fuel).1.recovered = false) :
    LexCols T text 0 (parseLoop T env { input := text } fuel).1.hist :=
  parseLoop_ind (h_invariant T env hE text) fuel { input := text } (fun _ _ hw => hw) v ha hr

theorem lexCols_fun {i : List Char} {p : Nat} {w1 w2 : List Nat} (h1 : LexCols T i p w1) (h2 : LexCols T i p w2) : w1 = w2 := by
  induction h1 generalizing w2 with
  | eof hn =>
    cases h2 with
    | eof _ => rfl
    | tok hn' _ _ => cases hn.symm.trans hn'
  | tok hn hc _ ih =>
    cases h2 with
    | eof hn' => cases hn.symm.trans hn'
    | tok hn' hc' hr' =>
      cases hn.symm.trans hn'
      cases hc.symm.trans hc'
      rw [ih hr']

theorem hist_is_text (hE : ErrColOk T) (text : List Char) (w0 : List Nat) (fuel : Nat) (v : Val)
    (hl : LexCols T text 0 w0)
    (ha : (parseLoop T env { input := text } fuel).2 = .accept v)
    (hr : (parseLoop T env { input := text } fuel).1.recovered = false) :
    (parseLoop T env { input := text } fuel).1.hist = w0 :=
  lexCols_fun T (accepted_lexcols T env hE text fuel v ha hr) hl

end Aidl.Props.LrHist
