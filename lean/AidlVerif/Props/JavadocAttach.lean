import AidlVerif.Props.C18

/-!
# C18 — which comment `get_javadoc` finds, for every text

The text before a construct ends with `Piece`s: whitespace and ordinary comments (block comments without `/` and `*`, line
comments without `/`). Each piece takes the backward scan from Idle to Idle (`scan_piece`); what the scan then meets
decides: the `*/` of a doc comment (body without `/`, not beginning with `*`: `findContent_doc`), a character of another
token (`findContent_none_token`), or the start of the text (`findContent_none_start`).
-/

namespace Aidl.Props.JavadocAttach
open Aidl.Javadoc Aidl.Props.JavadocTotal

def scanAll (s : Scan) (cs : List Char) : Scan := cs.foldl (scanStep Char.utf8Size) s

theorem scanAll_append (s : Scan) (a b : List Char) : scanAll s (a ++ b) = scanAll (scanAll s a) b := by
  unfold scanAll; rw [List.foldl_append]
theorem scanAll_cons (s : Scan) (c : Char) (cs : List Char) : scanAll s (c :: cs) = scanAll (scanStep Char.utf8Size s c) cs := rfl
theorem scanAll_nil (s : Scan) : scanAll s [] = s := rfl

/-- the four characters `find_content_string` passes over in its idle state -/
def IsWs (c : Char) : Prop := c = ' ' ∨ c = '\n' ∨ c = '\r' ∨ c = '\t'

instance (c : Char) : Decidable (IsWs c) := by unfold IsWs; infer_instance

inductive Piece
  | ws (c : Char)
  | block (c : List Char)
  | line (t : List Char)

def Piece.ok : Piece → Prop
  | .ws c => IsWs c
  | .block c => ∀ x ∈ c, x ≠ '/' ∧ x ≠ '*'
  | .line t => ∀ x ∈ t, x ≠ '/' ∧ x ≠ '\n'

instance (p : Piece) : Decidable p.ok := by
  cases p <;> unfold Piece.ok <;> infer_instance

def Piece.chars : Piece → List Char
  | .ws c => [c]
  | .block c => '/' :: '*' :: c ++ ['*', '/']
  | .line t => '/' :: '/' :: t ++ ['\n']

def flat (ps : List Piece) : List Char := ps.flatMap Piece.chars

structure IdleAt (s : Scan) (p : Nat) : Prop where
  state : s.state = .idle
  running : s.done = false
  pos : s.pos = p
  nostart : s.startPos = none

theorem step_idle_ws {s : Scan} {p : Nat} (h : IdleAt s p) {c : Char} (hc : IsWs c) :
    IdleAt (scanStep Char.utf8Size s c) (p + c.utf8Size) := by
  have hne : c ≠ '/' := by rcases hc with rfl | rfl | rfl | rfl <;> decide
  have hcond : ¬ (c ≠ ' ' ∧ c ≠ '\n' ∧ c ≠ '\r' ∧ c ≠ '\t') := by
    rcases hc with rfl | rfl | rfl | rfl <;> simp
  unfold scanStep
  simp only [h.running, Bool.false_eq_true, if_false, h.state, hne, hcond]
  refine ⟨?_, ?_, ?_, ?_⟩ <;> simp [h.pos, h.nostart]

theorem step_close {s : Scan} {p : Nat} (h : IdleAt s p) :
    scanStep Char.utf8Size (scanStep Char.utf8Size s '/') '*'
      = { s with pos := s.pos + 2, endPos := some (s.pos + 2), state := .insideComment } := by
  unfold scanStep
  simp [h.running, h.state, slash_size, star_size]

def Closed (P : FindState → Prop) (C : Char → Prop) : Prop :=
  ∀ (s : Scan) (c : Char), s.done = false → P s.state → C c →
    ∃ st, P st ∧ scanStep Char.utf8Size s c = { s with pos := s.pos + c.utf8Size, state := st }

theorem Closed.scanAll {P : FindState → Prop} {C : Char → Prop} (H : Closed P C) :
    ∀ (cs : List Char) (s : Scan), (∀ c ∈ cs, C c) → s.done = false → P s.state →
      ∃ st, P st ∧ scanAll s cs = { s with pos := s.pos + utf8Len cs, state := st }
  | [], s, _, _, hP => ⟨s.state, hP, by simp [scanAll_nil, utf8Len_nil]⟩
  | c :: cs, s, hcs, hd, hP => by
    obtain ⟨st, hst, e⟩ := H s c hd hP (hcs c (by simp))
    obtain ⟨st', hst', e'⟩ := H.scanAll cs { s with pos := s.pos + c.utf8Size, state := st }
      (fun x hx => hcs x (by simp [hx])) hd hst
    exact ⟨st', hst', by rw [scanAll_cons, e, e', utf8Len_cons, Nat.add_assoc]⟩

theorem closed_inside : Closed (· = .insideComment) (· ≠ '*') := by
  intro s c hd hP hc
  exact ⟨_, rfl, by unfold scanStep; simp [hP, hd, hc]⟩

theorem closed_somethingElse : Closed (· = .lineCommentOrSomethingElse) (fun c => c ≠ '/' ∧ c ≠ '\n') := by
  intro s c hd hP hc
  exact ⟨_, rfl, by unfold scanStep; simp [hP, hd, hc.1, hc.2]⟩

theorem closed_linetext :
    Closed (fun st => st = .idle ∨ st = .lineCommentOrSomethingElse) (fun c => c ≠ '/' ∧ c ≠ '\n') := by
  intro s c hd hP hc
  unfold scanStep
  rcases hP with hP | hP
  · by_cases hw : c ≠ ' ' ∧ c ≠ '\n' ∧ c ≠ '\r' ∧ c ≠ '\t'
    · exact ⟨_, Or.inr rfl, by simp [hP, hd, hc.1, hw]⟩
    · exact ⟨_, Or.inl rfl, by simp only [hd, Bool.false_eq_true, if_false, hP, hc.1, hw]⟩
  · exact ⟨_, Or.inr rfl, by simp only [hd, Bool.false_eq_true, if_false, hP, hc.1, hc.2]⟩

theorem closed_doc :
    Closed (fun st => st = .insideComment ∨ st = .beforeBeginStar ∨ st = .beforeBeginStarStar) (· ≠ '/') := by
  intro s c hd hP hc
  unfold scanStep
  rcases hP with hP | hP | hP <;> by_cases hs : c = '*'
  · exact ⟨_, Or.inr (Or.inl rfl), by simp [hP, hd, hs]⟩
  · exact ⟨_, Or.inl rfl, by simp [hP, hd, hs]⟩
  · exact ⟨_, Or.inr (Or.inr rfl), by simp [hP, hd, hs]⟩
  · exact ⟨_, Or.inl rfl, by simp [hP, hd, hs, hc]⟩
  · exact ⟨_, Or.inl rfl, by simp [hP, hd, hc]⟩
  · exact ⟨_, Or.inl rfl, by simp [hP, hd, hc]⟩

theorem nl_size : ('\n' : Char).utf8Size = 1 := by decide

theorem scan_piece {s : Scan} {p : Nat} (h : IdleAt s p) (pc : Piece) (hp : pc.ok) :
    IdleAt (scanAll s pc.chars.reverse) (p + utf8Len pc.chars) := by
  cases pc with
  | ws c =>
    simp only [Piece.chars, List.reverse_cons, List.reverse_nil, List.nil_append, scanAll_cons, scanAll_nil,
      utf8Len_cons, utf8Len_nil, Nat.add_zero]
    exact step_idle_ws h hp
  | block c =>
    have hrev : (Piece.block c).chars.reverse = '/' :: '*' :: (c.reverse ++ ['*', '/']) := by
      simp [Piece.chars]
    obtain ⟨_, rfl, e⟩ := closed_inside.scanAll c.reverse
      { s with pos := s.pos + 2, endPos := some (s.pos + 2), state := .insideComment }
      (fun x hx => (hp x (List.mem_reverse.mp hx)).2) h.running rfl
    rw [hrev, scanAll_cons, scanAll_cons, scanAll_append, step_close h, e, scanAll_cons, scanAll_cons, scanAll_nil]
    unfold scanStep
    refine ⟨by simp [h.running], by simp [h.running], ?_, by simp [h.running, h.nostart]⟩
    simp [h.running, h.pos, Piece.chars, utf8Len_cons, utf8Len_append, utf8Len_reverse, utf8Len_nil, slash_size, star_size]
    omega
  | line t =>
    have hrev : (Piece.line t).chars.reverse = '\n' :: (t.reverse ++ ['/', '/']) := by
      simp [Piece.chars]
    have h0 := step_idle_ws h (c := '\n') (Or.inr (Or.inl rfl))
    rw [hrev, scanAll_cons, scanAll_append]
    generalize scanStep Char.utf8Size s '\n' = s1 at h0
    obtain ⟨st, hst, e⟩ := closed_linetext.scanAll t.reverse s1 (fun x hx => hp x (List.mem_reverse.mp hx))
      h0.running (Or.inl h0.state)
    rw [e, scanAll_cons, scanAll_cons, scanAll_nil]
    -- `//` read backwards leads to Idle from either state
    unfold scanStep
    refine ⟨?_, ?_, ?_, ?_⟩ <;> rcases hst with rfl | rfl <;>
      simp [h0.running, h0.nostart, h0.pos, Piece.chars, utf8Len_cons, utf8Len_append, utf8Len_reverse, utf8Len_nil,
        slash_size, nl_size] <;>
      omega

theorem flat_cons (p : Piece) (ps : List Piece) : flat (p :: ps) = p.chars ++ flat ps := by
  simp [flat]

theorem scan_pieces : ∀ (ps : List Piece), (∀ p ∈ ps, p.ok) →
    ∀ (s : Scan) (p : Nat), IdleAt s p → IdleAt (scanAll s (flat ps).reverse) (p + utf8Len (flat ps))
  | [], _, s, p, h => by simpa [flat, scanAll_nil, utf8Len_nil] using h
  | pc :: ps, hps, s, p, h => by
    have h1 := scan_pieces ps (fun q hq => hps q (List.mem_cons_of_mem _ hq)) s p h
    have h2 := scan_piece h1 pc (hps pc (List.mem_cons_self ..))
    rw [flat_cons, List.reverse_append, scanAll_append, utf8Len_append,
      show p + (utf8Len pc.chars + utf8Len (flat ps)) = p + utf8Len (flat ps) + utf8Len pc.chars by omega]
    exact h2

theorem after_pieces (ps : List Piece) (hps : ∀ p ∈ ps, p.ok) :
    ∃ s0, IdleAt s0 (utf8Len (flat ps)) ∧
      ∀ x : List Char, (x ++ flat ps).reverse.foldl (scanStep Char.utf8Size) {} = scanAll s0 x.reverse := by
  refine ⟨scanAll {} (flat ps).reverse, ?_, fun x => ?_⟩
  · simpa using scan_pieces ps hps {} 0 ⟨rfl, rfl, rfl, rfl⟩
  · rw [List.reverse_append]
    exact scanAll_append _ _ _

/-- `hhead`: the first character of the body is no `*`, so the scan is in `insideComment` (not in one of the two `*`
    states) when it reaches the `/**` -/
theorem scan_doc_body (body : List Char) (hbody : ∀ x ∈ body, x ≠ '/') (hhead : body.head? ≠ some '*')
    (s : Scan) (hs : s.state = .insideComment) (hd : s.done = false) :
    scanAll s body.reverse = { s with pos := s.pos + utf8Len body, state := .insideComment } := by
  cases body with
  | nil => simp [scanAll_nil, utf8Len_nil, ← hs]
  | cons c cs =>
    have hc : c ≠ '*' := fun e => hhead (by simp [e])
    have hc' : c ≠ '/' := hbody c (by simp)
    obtain ⟨st, hst, e⟩ := closed_doc.scanAll cs.reverse s (fun x hx => hbody x (by simp [List.mem_reverse.mp hx]))
      hd (Or.inl hs)
    rw [List.reverse_cons, scanAll_append, e, scanAll_cons, scanAll_nil, utf8Len_cons, utf8Len_reverse]
    unfold scanStep
    rcases hst with rfl | rfl | rfl <;> simp [hd, hc, hc'] <;> omega

/-- the doc comment directly before a construct is found, verbatim, whatever stands before it (`pre`), in particular
    another doc comment -/
theorem findContent_doc (pre body : List Char) (ps : List Piece)
    (hbody : ∀ x ∈ body, x ≠ '/') (hhead : body.head? ≠ some '*') (hps : ∀ p ∈ ps, p.ok) :
    findContent (pre ++ ['/', '*', '*'] ++ body ++ ['*', '/'] ++ flat ps) = .ok (some body) := by
  obtain ⟨s0, h0, e⟩ := after_pieces ps hps
  have hscan : (pre ++ ['/', '*', '*'] ++ body ++ ['*', '/'] ++ flat ps).reverse.foldl (scanStep Char.utf8Size) {}
      = { s0 with pos := s0.pos + 2 + utf8Len body + 3, startPos := some (s0.pos + 2 + utf8Len body),
                  endPos := some (s0.pos + 2), state := .beforeBeginStarStar, done := true } := by
    have h345 : scanStep Char.utf8Size (scanStep Char.utf8Size (scanStep Char.utf8Size
          { s0 with pos := s0.pos + 2 + utf8Len body, endPos := some (s0.pos + 2), state := .insideComment } '*') '*') '/'
        = { s0 with pos := s0.pos + 2 + utf8Len body + 3, startPos := some (s0.pos + 2 + utf8Len body),
                    endPos := some (s0.pos + 2), state := .beforeBeginStarStar, done := true } := by
      unfold scanStep
      simp [h0.running, slash_size, star_size]
    rw [e, show (pre ++ ['/', '*', '*'] ++ body ++ ['*', '/']).reverse
          = '/' :: '*' :: (body.reverse ++ ('*' :: '*' :: '/' :: pre.reverse)) by simp,
      scanAll_cons, scanAll_cons, scanAll_append, step_close h0,
      scan_doc_body body hbody hhead { s0 with pos := s0.pos + 2, endPos := some (s0.pos + 2), state := .insideComment }
        rfl h0.running,
      scanAll_cons, scanAll_cons, scanAll_cons, h345]
    exact C18.foldl_done_stable _ _ rfl _
  have hc : utf8Len (['*', '/'] ++ flat ps) = utf8Len (flat ps) + 2 := by
    simp only [utf8Len_append, utf8Len_cons, utf8Len_nil, star_size, slash_size]
    omega
  rw [show pre ++ ['/', '*', '*'] ++ body ++ ['*', '/'] ++ flat ps = pre ++ ['/', '*', '*'] ++ body ++ (['*', '/'] ++ flat ps) by
    simp] at hscan ⊢
  exact findContent_slice _ body _ _ hscan (by simp only [h0.pos, hc]) (by simp only [h0.pos, hc])

theorem getJavadoc_doc (pre body rest : List Char) (ps : List Piece)
    (hbody : ∀ x ∈ body, x ≠ '/') (hhead : body.head? ≠ some '*') (hps : ∀ p ∈ ps, p.ok) :
    getJavadoc (pre ++ ['/', '*', '*'] ++ body ++ ['*', '/'] ++ flat ps ++ rest)
        (utf8Len (pre ++ ['/', '*', '*'] ++ body ++ ['*', '/'] ++ flat ps))
      = .ok (some (String.ofList (parseJavadoc body))) := by
  unfold getJavadoc
  rw [sliceBytes_prefix]
  simp only
  rw [findContent_doc pre body ps hbody hhead hps]

theorem findContent_none_start (ps : List Piece) (hps : ∀ p ∈ ps, p.ok) : findContent (flat ps) = .ok none := by
  obtain ⟨s0, h0, e⟩ := after_pieces ps hps
  apply findContent_of_nostart
  rw [← List.nil_append (flat ps), e]
  exact h0.nostart

/-- behind the pieces the scan meets a character `c` of another token, and the rest `l` of that line has no `/`: no
    documentation, whatever stands on the lines before (`pre`), in particular the doc comment of the previous member -/
theorem findContent_none_token (pre l : List Char) (c : Char) (ps : List Piece)
    (hpre : pre = [] ∨ pre.getLast? = some '\n')
    (hl : ∀ x ∈ l, x ≠ '/' ∧ x ≠ '\n') (hc : ¬ IsWs c) (hc' : c ≠ '/') (hps : ∀ p ∈ ps, p.ok) :
    findContent (pre ++ l ++ [c] ++ flat ps) = .ok none := by
  obtain ⟨s0, h0, e⟩ := after_pieces ps hps
  apply findContent_of_nostart
  rw [e, show (pre ++ l ++ [c]).reverse = c :: (l.reverse ++ pre.reverse) by simp, scanAll_cons, scanAll_append]
  have hcw : c ≠ ' ' ∧ c ≠ '\n' ∧ c ≠ '\r' ∧ c ≠ '\t' := by
    refine ⟨?_, ?_, ?_, ?_⟩ <;> intro h <;> apply hc <;> simp [IsWs, h]
  have h1 : scanStep Char.utf8Size s0 c = { s0 with pos := s0.pos + c.utf8Size, state := .lineCommentOrSomethingElse } := by
    unfold scanStep; simp [h0.running, h0.state, hc', hcw]
  rw [h1]
  obtain ⟨_, rfl, e⟩ := closed_somethingElse.scanAll l.reverse
    { s0 with pos := s0.pos + c.utf8Size, state := .lineCommentOrSomethingElse }
    (fun x hx => hl x (List.mem_reverse.mp hx)) h0.running rfl
  rw [e]
  rcases hpre with rfl | hlast
  · exact h0.nostart
  · -- the newline that starts this line stops the scan
    obtain ⟨pre', rfl⟩ := List.getLast?_eq_some_iff.mp hlast
    simp only [List.reverse_append, List.reverse_cons, List.reverse_nil, List.nil_append, List.singleton_append,
      scanAll_cons]
    have h3 : scanStep Char.utf8Size
          { s0 with pos := s0.pos + c.utf8Size + utf8Len l.reverse, state := .lineCommentOrSomethingElse } '\n'
        = { s0 with pos := s0.pos + c.utf8Size + utf8Len l.reverse + 1, state := .lineCommentOrSomethingElse, done := true } := by
      unfold scanStep
      simp [h0.running, nl_size]
    rw [h3, show scanAll _ pre'.reverse = _ from C18.foldl_done_stable _ _ rfl _]
    exact h0.nostart

/-- non-vacuity -/
example : findContent ("/** far */\n  /** Größe 🎉 */\n  /* note */ // line\n  ".toList) = .ok (some " Größe 🎉 ".toList) := by
  have h := findContent_doc "/** far */\n  ".toList " Größe 🎉 ".toList
    [.ws '\n', .ws ' ', .ws ' ', .block " note ".toList, .ws ' ', .line " line".toList, .ws ' ', .ws ' ']
  rw [String.toList_ofList, String.toList_ofList, String.toList_ofList, String.toList_ofList] at h
  rw [String.toList_ofList, String.toList_ofList]
  exact h (by decide) (by decide) (by decide)

example : findContent ("/** doc of f */\n  void f();\n  // c\n  ".toList) = .ok none := by
  have h := findContent_none_token "/** doc of f */\n".toList "  void f()".toList ';'
    [.ws '\n', .ws ' ', .ws ' ', .line " c".toList, .ws ' ', .ws ' ']
  rw [String.toList_ofList, String.toList_ofList, String.toList_ofList] at h
  rw [String.toList_ofList]
  exact h (Or.inr (by decide)) (by decide) (by decide) (by decide) (by decide)

end Aidl.Props.JavadocAttach
