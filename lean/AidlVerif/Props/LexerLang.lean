import AidlVerif.Props.LexerBounds

/-!
`lang r`: the finite language of an expression built from single characters, sequence and alternative (`none` for anything
else); the text of a token of such an entry is one of the listed words. Used for `DIRECTION` (`in`, `out`, `inout`).
-/

namespace Aidl.Props.LexerLang
open Aidl.Regex Aidl.Lexer Aidl.Javadoc Aidl.Props.JavadocTotal Aidl.Props.RegexSound Aidl.Props.LexerBounds

def lang : Re → Option (List (List Char))
  | .eps => some [[]]
  | .cls rs =>
    match rs with
    | [(a, b)] => if a = b then some [[Char.ofNat a]] else none
    | _ => none
  | .seq x y =>
    match lang x, lang y with
    | some A, some B => some (A.flatMap fun u => B.map fun v => u ++ v)
    | _, _ => none
  | .alt x y =>
    match lang x, lang y with
    | some A, some B => some (A ++ B)
    | _, _ => none
  | .star _ => none

theorem matches_lang {r : Re} {w : List Char} (h : Matches r w) : ∀ L, lang r = some L → w ∈ L := by
  induction h with
  | eps =>
    intro L hL
    cases hL
    simp
  | cls rs c hin =>
    intro L hL
    simp only [lang] at hL
    split at hL
    · rename_i a b
      split at hL
      · simp only [inCls, List.any_cons, List.any_nil, Bool.or_false, Bool.and_eq_true, decide_eq_true_eq] at hin
        cases hL
        have : c.toNat = a := by omega
        simp [← this, Char.ofNat_toNat]
      · cases hL
    · cases hL
  | seq a b u v _ _ iha ihb =>
    intro L hL
    simp only [lang] at hL
    split at hL
    · rename_i A B hA hB
      cases hL
      exact List.mem_flatMap.mpr ⟨u, iha A hA, List.mem_map.mpr ⟨v, ihb B hB, rfl⟩⟩
    · cases hL
  | altL a b u _ ih =>
    intro L hL
    simp only [lang] at hL
    split at hL
    · rename_i A B hA hB
      cases hL
      exact List.mem_append_left _ (ih A hA)
    · cases hL
  | altR a b u _ ih =>
    intro L hL
    simp only [lang] at hL
    split at hL
    · rename_i A B hA hB
      cases hL
      exact List.mem_append_right _ (ih B hB)
    · cases hL
  | starNil a => intro L hL; cases hL
  | starCons a u v _ _ _ _ => intro L hL; cases hL

theorem next_token_lang (table : LexTable) (fuel : Nat) (s : List Char) (p : Nat) (t : Token) (rest : List Char)
    (h : next table fuel s p = .token t rest) (L : List (List Char)) (hL : lang table[t.index]!.1 = some L) :
    ∃ w ∈ L, t.text = String.ofList w := by
  obtain ⟨_, tok, _, _, _, htext, _, _, hw⟩ : NextOk table s p (.token t rest) := h ▸ next_ok table fuel s p
  exact ⟨tok, matches_lang hw L hL, htext⟩

end Aidl.Props.LexerLang
