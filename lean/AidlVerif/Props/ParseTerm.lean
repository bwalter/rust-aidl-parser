import AidlVerif.Props.LrTermCert
import AidlVerif.Props.ParseTyped

/-!
C01, parse stage: for EVERY text the parser model terminates within its step bound.

`addContent_terminates`: with the tables of this run (LR stack-shape certificate `cert_ok`,
termination certificate `pot_ok`, non-nullable token expressions `lex_nonnull`, all evaluated by the
kernel), the model of `add_content` never stops with `fuelOut` — the bound `parseFuel` (64 · (n + 2) + 1024
steps for a text of n characters) is enough for every input, including inputs on which error recovery runs.
-/

namespace Aidl.Props.ParseTerm
open Aidl Aidl.Lr Aidl.Actions Aidl.Lexer
open Aidl.Props.LrSafe Aidl.Props.LrTerm Aidl.Props.ParseTyped Aidl.Props.LrInv

theorem finishE_fuelOut (env : Env) (id : String) (s : St) (o : Outcome)
    (h : finishE env id s o = .error .fuelOut) : o = .fuelOut := by
  cases LrDriver.finishE_finished h with
  | fuelOut => rfl

theorem addContent_terminates_gen (T : Tables) (C : Cert) (P : Pot) (hC : C.ok T = true) (hP : P.ok T C = true)
    (hL : LexProg T) (env : Env) (id text : String) : addContentE T env id text ≠ .error .fuelOut := by
  intro h
  unfold addContentE at h
  have := finishE_fuelOut env id _ _ h
  exact parse_term T C P env (certFacts T C hC) (potFacts T C P hP) hL text.toList this

theorem addContent_terminates (env : Env) (id text : String) :
    addContentE Driver.Parse.tables env id text ≠ .error .fuelOut :=
  addContent_terminates_gen Driver.Parse.tables cert pot cert_ok pot_ok lexProg_run env id text

/-- **For every text** and every line/column lookup defined on the character boundaries of the
    text: the model of `add_content` RETURNS A RESULT — no panic of the driver, no `Range::new` /
    slice panic, no value of the wrong shape, no `unreachable!()`, no step bound. -/
theorem addContent_total (env : Env) (id text : String) (hE : EnvOk env text.toList) :
    ∃ r, addContentE Driver.Parse.tables env id text = .ok r := by
  cases h : addContentE Driver.Parse.tables env id text with
  | ok r => exact ⟨r, rfl⟩
  | error st =>
    have h2 := addContent_stops2 env id text hE st h
    cases st with
    | fuelOut => exact absurd h (addContent_terminates env id text)
    | driver m => exact h2.elim
    | action p => exact h2.elim
    | acceptShape => exact h2.elim

end Aidl.Props.ParseTerm
