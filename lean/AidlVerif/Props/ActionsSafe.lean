import AidlVerif.Props.LrInv
import AidlVerif.Lemmas.RunM

/-! Actions are safe: good arguments in, good value out, no `bounds` panic. -/

namespace Aidl.Props.ActionsSafe
open Aidl Aidl.Lr Aidl.Actions Aidl.Lexer Aidl.Javadoc
open Aidl.Props.LrInv Aidl.Props.JavadocTotal

variable (env : Env) (I : List Char)

def Safe {α} (x : M α) (P : α → Prop) : Prop :=
  ∀ ds, DiagsLc env ds → match (x.run env).run ds with
    | .ok (a, ds') => P a ∧ DiagsLc env ds'
    | .error p => p.kind ≠ .bounds

variable {env I}

theorem Safe.pure {α} {P : α → Prop} {a : α} (h : P a) : Safe env (pure a : M α) P := fun _ hd => ⟨h, hd⟩

theorem Safe.bad {α} {P : α → Prop} {k : PanicKind} {m : String} (h : k ≠ .bounds) : Safe env (bad k m : M α) P :=
  fun _ _ => h

theorem Safe.bind {α β} {P : α → Prop} {Q : β → Prop} {x : M α} {f : α → M β}
    (hx : Safe env x P) (hf : ∀ a, P a → Safe env (f a) Q) : Safe env (x >>= f) Q :=
  fun ds hd => PL.Wp.bind (PL.Wp.mono (hx ds hd) fun a ds' h => hf a h.1 ds' h.2)

theorem Safe.mono {α} {P Q : α → Prop} {x : M α} (hx : Safe env x P) (h : ∀ a, P a → Q a) : Safe env x Q :=
  fun ds hd => PL.Wp.mono (hx ds hd) fun a _ hh => ⟨h a hh.1, hh.2⟩

theorem Safe.map {α β} {P : α → Prop} {Q : β → Prop} {x : M α} {g : α → β}
    (hx : Safe env x P) (h : ∀ a, P a → Q (g a)) : Safe env (g <$> x) Q :=
  (bind_pure_comp g x) ▸ hx.bind fun a ha => .pure (h a ha)

theorem Safe.pushDiag {d : Diag} (hd : DiagLc env d) : Safe env (pushDiag d) (fun _ => True) :=
  fun _ hds => ⟨trivial, List.forall_mem_append.mpr ⟨hds, List.forall_mem_singleton.mpr hd⟩⟩

theorem Safe.mapM {α β} {P : β → Prop} {f : α → M β} :
    ∀ {l : List α}, (∀ a ∈ l, Safe env (f a) P) → Safe env (l.mapM f) (fun r => ∀ b ∈ r, P b)
  | [], _ => List.mapM_nil (f := f) ▸ .pure (by simp)
  | a :: l, h => List.mapM_cons (f := f) ▸
      (h a (List.mem_cons_self ..)).bind fun _ hb => (Safe.mapM fun a' ha' => h a' (List.mem_cons_of_mem _ ha')).bind fun _ hbs =>
        .pure (List.forall_mem_cons.mpr ⟨hb, hbs⟩)

theorem safe_bind_pure {env : Env} {α β} {Q : β → Prop} {a : α} {f : α → M β}
    (h : Safe env (f a) Q) : Safe env (pure a >>= f) Q :=
  (pure_bind a f).symm ▸ h

theorem safe_bind_bad {env : Env} {α β} {Q : β → Prop} {k : PanicKind} {m : String} {f : α → M β}
    (h : k ≠ .bounds) : Safe env (bad k m >>= f) Q :=
  (Safe.bad (P := fun _ => False) h).bind fun _ hf => hf.elim

theorem safe_mkPos (hE : EnvOk env I) {n : Nat} (h : Bd I n) : Safe env (mkPos n) (PosGood env I) := by
  intro ds hd
  have := hE.lineCol n h
  have he := Aidl.Props.PL.mkPos_eq env ds n
  unfold Aidl.Props.PL.runM at he
  rw [he]
  cases hl : env.lineCol n with
  | none => rw [hl] at this; cases this
  | some lc => exact ⟨⟨h, hl⟩, hd⟩

theorem safe_mkRange (hE : EnvOk env I) {a b : Nat} (ha : Bd I a) (hb : Bd I b) :
    Safe env (mkRange a b) (RangeGood env I) := by
  unfold mkRange
  refine Safe.bind (safe_mkPos hE ha) (fun _ h1 => ?_)
  refine Safe.bind (safe_mkPos hE hb) (fun _ h2 => ?_)
  exact Safe.pure ⟨h1, h2⟩

theorem safe_getJavadoc (hE : EnvOk env I) {n : Nat} (h : Bd I n) : Safe env (Actions.getJavadoc n) (fun _ => True) := by
  intro ds hds
  obtain ⟨r, hr⟩ := javadoc_no_panic I n h
  unfold Actions.getJavadoc
  refine Safe.bind (P := fun e => e = env) (fun ds' hd => show (env = env ∧ DiagsLc env ds') from ⟨rfl, hd⟩) (fun e he => ?_) ds hds
  subst he
  rw [hE.text, hr]
  exact Safe.pure trivial

theorem diagLc_mk {r : Range} (h : RangeGood env I r) (k : DiagKind) (m : String) (c hh : Option String)
    (hc : synCtx c = true := by decide) :
    DiagLc env { kind := k, range := r, message := m, context := c, hint := hh, related := [] } :=
  ⟨h.lc, (by intro ri hri; cases hri), hc⟩

theorem safe_nth {args : List ArgV} (h : GoodArgs env I args) (i : Nat) : Safe env (nth args i) (GoodVal env I) := by
  unfold nth
  cases hi : args[i]? with
  | none => exact Safe.bad (by decide)
  | some a =>
    have ha := h a (List.mem_of_getElem? hi)
    cases a with
    | triple s v e => exact Safe.pure ha.2.1
    | locRef n => exact Safe.pure ha

theorem safe_asLoc {v : Val} (h : GoodVal env I v) : Safe env (asLoc v) (Bd I) := by
  cases v <;> first | exact Safe.bad (by decide) | exact Safe.pure h

theorem safe_locAt {args : List ArgV} (h : GoodArgs env I args) (i : Nat) : Safe env (locAt args i) (Bd I) := by
  unfold locAt
  exact Safe.bind (safe_nth h i) (fun v hv => safe_asLoc hv)

theorem safe_asTok (v : Val) : Safe env (asTok v) (fun _ => True) := by
  cases v <;> first | exact Safe.bad (by decide) | exact Safe.pure trivial
theorem safe_asStr (v : Val) : Safe env (asStr v) (fun _ => True) := by
  cases v <;> first | exact Safe.bad (by decide) | exact Safe.pure trivial
theorem safe_asTy {v : Val} (h : GoodVal env I v) : Safe env (asTy v) (TyGood env I) := by
  cases v <;> first | exact Safe.bad (by decide) | exact Safe.pure h
theorem safe_asPackageV {v : Val} (h : GoodVal env I v) : Safe env (asPackageV v) (PackageGood env I) := by
  cases v <;> first | exact Safe.bad (by decide) | exact Safe.pure h
theorem safe_asImportV {v : Val} (h : GoodVal env I v) : Safe env (asImportV v) (ImportGood env I) := by
  cases v <;> first | exact Safe.bad (by decide) | exact Safe.pure h
theorem safe_asItemV {v : Val} (h : GoodVal env I v) : Safe env (asItemV v) (ItemGood env I) := by
  cases v <;> first | exact Safe.bad (by decide) | exact Safe.pure h
theorem safe_asIfaceV {v : Val} (h : GoodVal env I v) : Safe env (asIfaceV v) (IfaceGood env I) := by
  cases v <;> first | exact Safe.bad (by decide) | exact Safe.pure h
theorem safe_asParcV {v : Val} (h : GoodVal env I v) : Safe env (asParcV v) (ParcGood env I) := by
  cases v <;> first | exact Safe.bad (by decide) | exact Safe.pure h
theorem safe_asEnmV {v : Val} (h : GoodVal env I v) : Safe env (asEnmV v) (EnmGood env I) := by
  cases v <;> first | exact Safe.bad (by decide) | exact Safe.pure h
theorem safe_asMethodV {v : Val} (h : GoodVal env I v) : Safe env (asMethodV v) (MethodGood env I) := by
  cases v <;> first | exact Safe.bad (by decide) | exact Safe.pure h
theorem safe_asConstV {v : Val} (h : GoodVal env I v) : Safe env (asConstV v) (ConstGood env I) := by
  cases v <;> first | exact Safe.bad (by decide) | exact Safe.pure h
theorem safe_asFieldV {v : Val} (h : GoodVal env I v) : Safe env (asFieldV v) (FieldGood env I) := by
  cases v <;> first | exact Safe.bad (by decide) | exact Safe.pure h
theorem safe_asEnumElV {v : Val} (h : GoodVal env I v) : Safe env (asEnumElV v) (EnumElGood env I) := by
  cases v <;> first | exact Safe.bad (by decide) | exact Safe.pure h
theorem safe_asDirV {v : Val} (h : GoodVal env I v) : Safe env (asDirV v) (DirGood env I) := by
  cases v <;> first | exact Safe.bad (by decide) | exact Safe.pure h
theorem safe_asStrPairV (v : Val) : Safe env (asStrPairV v) (fun _ => True) := by
  unfold asStrPairV
  split <;> first | exact Safe.bad (by decide) | exact Safe.pure trivial
theorem safe_asAnnParamV (v : Val) : Safe env (asAnnParamV v) (fun _ => True) := by
  unfold asAnnParamV
  split <;> first | exact Safe.bad (by decide) | exact Safe.pure trivial
theorem safe_asLocTokV {v : Val} (h : GoodVal env I v) : Safe env (asLocTokV v) (fun ls => Bd I ls.1) := by
  unfold asLocTokV
  split
  · exact Safe.pure h.1
  · exact Safe.bad (by decide)
theorem safe_asArgV {v : Val} (h : GoodVal env I v) : Safe env (asArgV v) (ArgGood env I) := by
  cases v <;> first | exact Safe.bad (by decide) | exact Safe.pure h
theorem safe_asIelV {v : Val} (h : GoodVal env I v) : Safe env (asIelV v) (IelGood env I) := by
  cases v <;> first | exact Safe.bad (by decide) | exact Safe.pure h
theorem safe_asPelV {v : Val} (h : GoodVal env I v) : Safe env (asPelV v) (PelGood env I) := by
  cases v <;> first | exact Safe.bad (by decide) | exact Safe.pure h

theorem goodVals_iff (l : List Val) : GoodVals env I l ↔ ∀ x ∈ l, GoodVal env I x := by
  induction l with
  | nil => simp [GoodVals]
  | cons v vs ih => simp [GoodVals, ih]

theorem safe_asList {v : Val} (h : GoodVal env I v) : Safe env (asList v) (fun l => ∀ x ∈ l, GoodVal env I x) := by
  cases v <;> first | exact Safe.bad (by decide) | skip
  rename_i l
  exact Safe.pure ((goodVals_iff l).mp h)

theorem safe_asOpt {v : Val} (h : GoodVal env I v) : Safe env (asOpt v) (fun o => ∀ x, o = some x → GoodVal env I x) := by
  cases v <;> first | exact Safe.bad (by decide) | skip
  · exact Safe.pure (by intro x hx; cases hx)
  · exact Safe.pure (by intro x hx; cases hx; exact h)

theorem safe_tokAt {args : List ArgV} (h : GoodArgs env I args) (i : Nat) : Safe env (tokAt args i) (fun _ => True) := by
  unfold tokAt
  exact Safe.bind (safe_nth h i) (fun v _ => safe_asTok v)

theorem safe_asAnns {v : Val} (h : GoodVal env I v) : Safe env (asAnns v) (fun _ => True) := by
  unfold asAnns
  refine Safe.bind (safe_asList h) (fun l _ => ?_)
  refine Safe.mono (Safe.mapM (P := fun _ => True) ?_) (fun _ _ => trivial)
  intro a _
  cases a <;> first | exact Safe.bad (by decide) | exact Safe.pure trivial

theorem safe_optTokStr {v : Val} (h : GoodVal env I v) : Safe env (optTokStr v) (fun _ => True) := by
  unfold optTokStr
  refine Safe.bind (safe_asOpt h) (fun o _ => ?_)
  cases o with
  | none => exact Safe.pure trivial
  | some t => exact Safe.map (safe_asTok t) (fun _ _ => trivial)

theorem safe_joinToks {v : Val} (h : GoodVal env I v) : Safe env (joinToks v) (fun _ => True) := by
  unfold joinToks
  refine Safe.bind (safe_asList h) (fun l _ => ?_)
  refine Safe.bind (Safe.mapM (P := fun _ => True) (fun a _ => safe_asTok a)) (fun _ _ => ?_)
  exact Safe.pure trivial

theorem safe_flattenOpts {v : Val} (h : GoodVal env I v) : Safe env (flattenOpts v) (fun l => ∀ x ∈ l, GoodVal env I x) := by
  unfold flattenOpts
  refine (safe_asList h).bind fun l hl => (Safe.mapM fun a ha => safe_asOpt (hl a ha)).bind fun os hos => .pure ?_
  intro x hx
  obtain ⟨o, ho, hox⟩ := List.mem_filterMap.mp hx
  exact hos o ho x hox

theorem safe_simpleType (hE : EnvOk env I) (name : String) (k : TypeKind) {a b : Nat} (ha : Bd I a) (hb : Bd I b) :
    Safe env (simpleType name k a b) (GoodVal env I) := by
  unfold simpleType
  refine Safe.bind (safe_mkRange hE ha hb) (fun _ hr => ?_)
  exact Safe.pure ⟨hr, hr, trivial⟩

theorem safe_fromParseError (hE : EnvOk env I) {e : ParseErr} (he : GoodErr I e) :
    Safe env (fromParseError e) (DiagLc env) := by
  unfold fromParseError
  cases e with
  | invalidToken l => exact (safe_mkRange hE he he).bind fun _ hr => .pure (diagLc_mk hr _ _ _ _)
  | unrecognizedEof l ex => exact (safe_mkRange hE he he).bind fun _ hr => .pure (diagLc_mk hr _ _ _ _)
  | unrecognizedToken t ex => exact (safe_mkRange hE he.1 he.2).bind fun _ hr => .pure (diagLc_mk hr _ _ _ _)
  | extraToken t => exact (safe_mkRange hE he.1 he.2).bind fun _ hr => .pure (diagLc_mk hr _ _ _ _)

theorem safe_recoveryAction (hE : EnvOk env I) (msg : String) {args : List ArgV}
    (h : GoodArgs env I args) : Safe env (recoveryAction msg args) (GoodVal env I) := by
  unfold recoveryAction
  refine (safe_nth h 0).bind fun v hv => ?_
  cases v <;> first | exact .bad (by decide) | skip
  refine Safe.bind (P := DiagLc env) ?_ fun d hd => (Safe.pushDiag hd).bind fun _ _ => .pure trivial
  exact (safe_fromParseError hE hv.1).bind fun d hd => .pure hd

theorem bd_of_pair {I : List Char} {ip : Nat} {s : String}
    (h : ∀ x, some ((Val.loc ip).pair (Val.tok s)) = some x → GoodVal env I x) : Bd I ip :=
  (h _ rfl).1

/-- `f (← nth args i)`, as it stands in front of the rest of an action -/
theorem Safe.at {α β} {P : α → Prop} {Q : β → Prop} {args : List ArgV} {f : Val → M α} {g : α → M β} (h : GoodArgs env I args)
    (i : Nat) (hf : ∀ {v}, GoodVal env I v → Safe env (f v) P) (k : ∀ a, P a → Safe env (g a) Q) :
    Safe env (nth args i >>= fun v => f v >>= g) Q :=
  (safe_nth h i).bind fun _ hv => (hf hv).bind k

/-- `mkRange (← locAt args i) (← locAt args j)`, as it stands in front of the rest of an action -/
theorem Safe.rangeAt {β} {Q : β → Prop} {args : List ArgV} {f : Range → M β} (hE : EnvOk env I) (h : GoodArgs env I args)
    (i j : Nat) (k : ∀ r, RangeGood env I r → Safe env (f r) Q) :
    Safe env (locAt args i >>= fun a => locAt args j >>= fun b => mkRange a b >>= f) Q :=
  (safe_locAt h i).bind fun _ ha => (safe_locAt h j).bind fun _ hb => (safe_mkRange hE ha hb).bind k

/-! One case per alternative of `userAction`, in its order; each case names, bind by bind, the
specification of the primitive the action calls next. -/

theorem userAction_safe (hE : EnvOk env I) (label : Nat) (args : List ArgV) (h : GoodArgs env I args) :
    Safe env (userAction label args) (GoodVal env I) := by
  unfold userAction
  split
  · -- 16 OptAidl
    refine Safe.at h 0 safe_asPackageV fun p hp => ?_
    refine Safe.at h 1 safe_asList fun l hl => (Safe.mapM fun a ha => safe_asImportV (hl a ha)).bind fun imps himps => ?_
    refine Safe.at h 2 safe_asList fun l hl => (Safe.mapM fun a ha => safe_asImportV (hl a ha)).bind fun decls hdecls => ?_
    refine Safe.at h 3 safe_asOpt fun o ho => ?_
    cases o with
    | none => exact .pure trivial
    | some w => exact (safe_asItemV (ho w rfl)).bind fun it hit => .pure ⟨hp, himps, hdecls, hit⟩
  · -- 17 Package
    refine Safe.at h 3 (fun _ => safe_asStr _) fun name _ => ?_
    refine Safe.rangeAt hE h 2 4 fun sym hsym => Safe.rangeAt hE h 0 5 fun full hfull => ?_
    exact .pure ⟨hsym, hfull⟩
  · -- 18 Import
    refine Safe.at h 3 safe_joinToks fun path _ => (safe_tokAt h 4).bind fun name _ => ?_
    refine Safe.rangeAt hE h 2 5 fun sym hsym => Safe.rangeAt hE h 0 6 fun full hfull => ?_
    exact .pure ⟨hsym, hfull⟩
  · -- 19 QualifiedName
    refine Safe.at h 0 safe_asList fun l hl => (safe_tokAt h 1).bind fun n _ => ?_
    split
    · exact .pure trivial
    · exact (safe_joinToks (v := .list l) ((goodVals_iff l).mpr hl)).bind fun _ _ => .pure trivial
  · -- 20 DeclaredParcelable
    refine Safe.at h 4 (fun _ => safe_asStrPairV _) fun pn _ => ?_
    refine Safe.rangeAt hE h 3 5 fun sym hsym => Safe.rangeAt hE h 1 7 fun full hfull => ?_
    exact .pure ⟨hsym, hfull⟩
  · -- 100 DottedName
    refine Safe.at h 0 safe_joinToks fun _ _ => (safe_tokAt h 1).bind fun _ _ => ?_
    exact .pure ⟨trivial, trivial⟩
  · -- 21 OptItem: interface
    exact Safe.at h 0 safe_asIfaceV fun _ hi => .pure hi
  · -- 22 OptItem: parcelable
    exact Safe.at h 0 safe_asParcV fun _ hi => .pure hi
  · -- 23 OptItem: enum
    exact Safe.at h 0 safe_asEnmV fun _ hi => .pure hi
  · -- 24
    exact safe_recoveryAction hE _ h
  · -- 25 Interface
    refine Safe.at h 9 safe_flattenOpts fun l hl => (Safe.mapM fun a ha => safe_asIelV (hl a ha)).bind fun els hels => ?_
    refine Safe.at h 3 safe_asOpt fun _ _ => (safe_tokAt h 6).bind fun _ _ => ?_
    refine Safe.at h 1 safe_asAnns fun _ _ => ?_
    refine (safe_locAt h 0).bind fun _ h0 => (safe_getJavadoc hE h0).bind fun _ _ => ?_
    refine Safe.rangeAt hE h 2 11 fun full hfull => Safe.rangeAt hE h 5 7 fun sym hsym => ?_
    exact .pure ⟨hsym, hfull, hels⟩
  · -- 26 InterfaceElement: method
    exact Safe.at h 0 safe_asMethodV fun _ hm => .pure hm
  · -- 27 InterfaceElement: const
    exact Safe.at h 0 safe_asConstV fun _ hc => .pure hc
  · -- 28
    exact safe_recoveryAction hE _ h
  · -- 29 Parcelable
    refine Safe.at h 8 safe_flattenOpts fun l hl => (Safe.mapM fun a ha => safe_asPelV (hl a ha)).bind fun els hels => ?_
    refine (safe_tokAt h 5).bind fun _ _ => Safe.at h 1 safe_asAnns fun _ _ => ?_
    refine (safe_locAt h 0).bind fun _ h0 => (safe_getJavadoc hE h0).bind fun _ _ => ?_
    refine Safe.rangeAt hE h 2 10 fun full hfull => Safe.rangeAt hE h 4 6 fun sym hsym => ?_
    exact .pure ⟨hsym, hfull, hels⟩
  · -- 30 ParcelableElement: field
    exact Safe.at h 0 safe_asFieldV fun _ hf => .pure hf
  · -- 31 ParcelableElement: const
    exact Safe.at h 0 safe_asConstV fun _ hc => .pure hc
  · -- 32
    exact safe_recoveryAction hE _ h
  · -- 33 Enum
    refine Safe.at h 8 safe_flattenOpts fun l hl => (Safe.mapM fun a ha => safe_asEnumElV (hl a ha)).bind fun els hels => ?_
    refine (safe_tokAt h 5).bind fun _ _ => Safe.at h 1 safe_asAnns fun _ _ => ?_
    refine (safe_locAt h 0).bind fun _ h0 => (safe_getJavadoc hE h0).bind fun _ _ => ?_
    refine Safe.rangeAt hE h 2 10 fun full hfull => Safe.rangeAt hE h 4 6 fun sym hsym => ?_
    exact .pure ⟨hsym, hfull, hels⟩
  · -- 34 OptEnumElement
    exact (safe_nth h 0).bind fun v hv => .pure hv
  · -- 35
    exact safe_recoveryAction hE _ h
  · -- 36 Method
    refine Safe.at h 11 safe_asList fun l hl => (Safe.mapM fun a ha => safe_asArgV (hl a ha)).bind fun margs hmargs => ?_
    refine (safe_locAt h 15).bind fun vp2 hvp2 => Safe.at h 14 safe_asOpt fun o ho => ?_
    extract_lets rest
    have hrest : ∀ code, Safe env (rest code) (GoodVal env I) := fun code => by
      refine Safe.at h 4 safe_asOpt fun _ _ => (safe_tokAt h 8).bind fun _ _ => ?_
      refine Safe.at h 6 safe_asTy fun rt hrt => ?_
      refine Safe.at h 1 safe_asAnns fun _ _ => ?_
      refine (safe_locAt h 0).bind fun _ h0 => (safe_getJavadoc hE h0).bind fun _ _ => ?_
      refine Safe.rangeAt hE h 2 16 fun full hfull => Safe.rangeAt hE h 7 9 fun sym hsym => ?_
      refine (safe_locAt h 13).bind fun _ h13 => (safe_mkRange hE h13 hvp2).bind fun tcr htcr => ?_
      refine Safe.rangeAt hE h 3 5 fun owr howr => ?_
      exact .pure ⟨hsym, hfull, htcr, howr, hrt, hmargs⟩
    cases o with
    | none => exact safe_bind_pure (hrest _)
    | some c =>
      refine (safe_asLocTokV (ho c rfl)).bind fun ls hls => ?_
      split
      · exact safe_bind_pure (hrest _)
      · refine (safe_mkRange hE hls hvp2).bind fun r hr => ?_
        exact (Safe.pushDiag (diagLc_mk hr _ _ _ _)).bind fun _ _ => safe_bind_pure (hrest _)
  · -- 37 Arg
    refine Safe.at h 1 safe_asDirV fun d hd => ?_
    refine (safe_locAt h 0).bind fun p0 hp0 => (safe_locAt h 6).bind fun p2 hp2 => ?_
    refine Safe.at h 5 safe_optTokStr fun _ _ => ?_
    refine Safe.at h 3 safe_asTy fun t ht => ?_
    refine (safe_locAt h 4).bind fun _ h4 => (safe_mkRange hE h4 hp2).bind fun sym hsym => ?_
    refine (safe_mkRange hE hp0 hp2).bind fun full hfull => ?_
    refine Safe.at h 2 safe_asAnns fun _ _ => (safe_getJavadoc hE hp0).bind fun _ _ => ?_
    exact .pure ⟨hsym, hfull, hd, ht⟩
  · -- 38 Direction
    refine (safe_locAt h 0).bind fun p1 hp1 => (safe_locAt h 2).bind fun p2 hp2 => ?_
    refine Safe.at h 1 safe_optTokStr fun o _ => ?_
    split
    · exact (safe_mkRange hE hp1 hp2).bind fun r hr => .pure hr
    · exact (safe_mkRange hE hp1 hp2).bind fun r hr => .pure hr
    · exact (safe_mkRange hE hp1 hp2).bind fun r hr => .pure hr
    · exact .pure trivial
    · exact .bad (by decide)
  · -- 39 Const
    refine (safe_tokAt h 6).bind fun _ _ => Safe.at h 4 safe_asTy fun t ht => ?_
    refine Safe.at h 9 (fun _ => safe_asStr _) fun _ _ => ?_
    refine Safe.at h 1 safe_asAnns fun _ _ => ?_
    refine (safe_locAt h 0).bind fun _ h0 => (safe_getJavadoc hE h0).bind fun _ _ => ?_
    refine Safe.rangeAt hE h 2 10 fun full hfull => Safe.rangeAt hE h 5 7 fun sym hsym => ?_
    exact .pure ⟨hsym, hfull, ht⟩
  · -- 40 Field
    refine Safe.at h 7 safe_asOpt fun o _ => ?_
    extract_lets rest
    have hrest : ∀ value, Safe env (rest value) (GoodVal env I) := fun value => by
      refine (safe_tokAt h 5).bind fun _ _ => Safe.at h 3 safe_asTy fun t ht => ?_
      refine Safe.at h 1 safe_asAnns fun _ _ => ?_
      refine (safe_locAt h 0).bind fun _ h0 => (safe_getJavadoc hE h0).bind fun _ _ => ?_
      refine Safe.rangeAt hE h 2 8 fun full hfull => Safe.rangeAt hE h 4 6 fun sym hsym => ?_
      exact .pure ⟨hsym, hfull, ht⟩
    cases o with
    | none => exact safe_bind_pure (hrest _)
    | some s => exact (Safe.map (Q := fun _ => True) (safe_asStr s) fun _ _ => trivial).bind fun _ _ => hrest _
  · -- 41 EnumElement
    refine (safe_tokAt h 4).bind fun _ _ => Safe.at h 6 safe_optTokStr fun _ _ => ?_
    refine (safe_locAt h 0).bind fun _ h0 => (safe_getJavadoc hE h0).bind fun _ _ => ?_
    refine Safe.rangeAt hE h 2 7 fun full hfull => Safe.rangeAt hE h 3 5 fun sym hsym => ?_
    exact .pure ⟨hsym, hfull⟩
  · -- 50 void
    exact (safe_tokAt h 1).bind fun _ _ => (safe_locAt h 0).bind fun _ ha => (safe_locAt h 2).bind fun _ hb => safe_simpleType hE _ _ ha hb
  · -- 51 primitive
    exact (safe_tokAt h 1).bind fun _ _ => (safe_locAt h 0).bind fun _ ha => (safe_locAt h 2).bind fun _ hb => safe_simpleType hE _ _ ha hb
  · -- 52 String
    exact (safe_tokAt h 1).bind fun _ _ => (safe_locAt h 0).bind fun _ ha => (safe_locAt h 2).bind fun _ hb => safe_simpleType hE _ _ ha hb
  · -- 53 CharSequence
    exact (safe_tokAt h 1).bind fun _ _ => (safe_locAt h 0).bind fun _ ha => (safe_locAt h 2).bind fun _ hb => safe_simpleType hE _ _ ha hb
  · -- 54 TypeArray
    refine Safe.at h 2 safe_asTy fun t ht => ?_
    refine Safe.rangeAt hE h 1 3 fun sym hsym => Safe.rangeAt hE h 0 6 fun full hfull => ?_
    exact .pure ⟨hsym, hfull, ht, trivial⟩
  · -- 55 TypeList
    refine Safe.at h 5 safe_asTy fun t ht => ?_
    refine Safe.rangeAt hE h 1 3 fun sym hsym => Safe.rangeAt hE h 0 7 fun full hfull => ?_
    exact .pure ⟨hsym, hfull, ht, trivial⟩
  · -- 56 raw List
    exact Safe.rangeAt hE h 0 2 fun r hr => .pure ⟨hr, hr, trivial⟩
  · -- 57 TypeMap
    refine Safe.at h 5 safe_asTy fun k hk => ?_
    refine Safe.at h 7 safe_asTy fun t ht => ?_
    refine Safe.rangeAt hE h 1 3 fun sym hsym => Safe.rangeAt hE h 0 9 fun full hfull => ?_
    exact .pure ⟨hsym, hfull, hk, ht, trivial⟩
  · -- 58 raw Map
    exact Safe.rangeAt hE h 0 2 fun r hr => .pure ⟨hr, hr, trivial⟩
  · -- 59 TypeCustom
    refine Safe.rangeAt hE h 0 2 fun r hr => ?_
    exact Safe.at h 1 (fun _ => safe_asStr _) fun _ _ => .pure ⟨hr, hr, trivial⟩
  · -- 60 AnnotationList
    exact Safe.at h 0 safe_flattenOpts fun l hl => .pure ((goodVals_iff l).mpr hl)
  · -- 61 OptAnnotation
    refine Safe.at h 1 safe_asOpt fun o ho => ?_
    extract_lets rest
    have hrest : ∀ ps, Safe env (rest ps) (GoodVal env I) := fun ps =>
      (safe_tokAt h 0).bind fun _ _ => .pure trivial
    cases o with
    | none => exact safe_bind_pure (hrest _)
    | some l =>
      refine (safe_asList (ho l rfl)).bind fun l' _ => ?_
      exact (Safe.mapM (P := fun _ => True) fun a _ => safe_asAnnParamV a).bind fun _ _ => hrest _
  · -- 62 AnnotationParam
    refine Safe.at h 1 safe_optTokStr fun o _ => ?_
    extract_lets rest
    have hrest : ∀ w, GoodVal env I w → Safe env (rest w) (GoodVal env I) := fun w hw =>
      (safe_tokAt h 0).bind fun _ _ => .pure ⟨trivial, hw⟩
    cases o with
    | none => exact safe_bind_pure (hrest _ trivial)
    | some s => exact safe_bind_pure (hrest _ trivial)
  · -- 63 Value
    exact (safe_tokAt h 0).bind fun _ _ => .pure trivial
  · -- 64 Value
    exact (safe_tokAt h 0).bind fun _ _ => .pure trivial
  · -- 65 Value
    exact (safe_tokAt h 0).bind fun _ _ => .pure trivial
  · -- 66 Value
    exact (safe_tokAt h 0).bind fun _ _ => .pure trivial
  · -- 67
    exact .pure trivial
  · -- 68
    exact .pure trivial
  · -- 69
    exact (safe_tokAt h 0).bind fun _ _ => (safe_tokAt h 2).bind fun _ _ => .pure trivial
  · -- no other label
    exact .bad (by decide)

theorem goodVal_snoc {l : List Val} {x : Val} (hl : ∀ y ∈ l, GoodVal env I y) (hx : GoodVal env I x) :
    GoodVal env I (.list (l ++ [x])) :=
  (goodVals_iff _).mpr (List.forall_mem_append.mpr ⟨hl, List.forall_mem_singleton.mpr hx⟩)

theorem evalPrim_safe (p : Prim) {args : List ArgV} (h : GoodArgs env I args) :
    Safe env (evalPrim p args) (GoodVal env I) := by
  unfold evalPrim
  cases p with
  | arg i => exact safe_nth h i
  | some i => exact (safe_nth h i).bind fun v hv => .pure hv
  | none => exact .pure trivial
  | nil => exact .pure trivial
  | sing i => exact (safe_nth h i).bind fun v hv => .pure ⟨hv, trivial⟩
  | push v e =>
    refine (safe_nth h v).bind fun l hl => (safe_asList hl).bind fun l' hl' => ?_
    exact (safe_nth h e).bind fun x hx => .pure (goodVal_snoc hl' hx)
  | pushOpt v e =>
    refine (safe_nth h e).bind fun o ho => (safe_asOpt ho).bind fun o' ho' => ?_
    cases o' with
    | none => exact safe_nth h v
    | some x => exact (safe_nth h v).bind fun l hl => (safe_asList hl).bind fun l' hl' => .pure (goodVal_snoc hl' (ho' x rfl))
  | pair i j => exact (safe_nth h i).bind fun a ha => (safe_nth h j).bind fun b hb => .pure ⟨ha, hb⟩

def GoodScope (env : Env) (I : List Char) (sc : Scope) : Prop :=
  (∀ n v, sc.locs.lookup n = some v → Bd I v) ∧ (∀ n a, sc.temps.lookup n = some a → GoodArg env I a)

theorem goodScope_empty : GoodScope env I {} :=
  ⟨fun _ _ h => (nomatch h), fun _ _ h => (nomatch h)⟩

theorem lookup_cons_some {β} {n m : String} {v w : β} {l : List (String × β)}
    (h : List.lookup m ((n, v) :: l) = some w) : w = v ∨ l.lookup m = some w := by
  simp only [List.lookup] at h
  split at h
  · exact .inl (Option.some.inj h).symm
  · exact .inr h

theorem GoodScope.loc {sc : Scope} (hs : GoodScope env I sc) (n : String) {v : Nat} (hv : Bd I v) :
    GoodScope env I { sc with locs := (n, v) :: sc.locs } :=
  ⟨fun m w hm => (lookup_cons_some hm).elim (· ▸ hv) (hs.1 m w), hs.2⟩

theorem GoodScope.temp {sc : Scope} (hs : GoodScope env I sc) (n : String) {a : ArgV} (ha : GoodArg env I a) :
    GoodScope env I { sc with temps := (n, a) :: sc.temps } :=
  ⟨hs.1, fun m w hm => (lookup_cons_some hm).elim (· ▸ ha) (hs.2 m w)⟩

theorem evalLoc_safe {sc : Scope} {args : List ArgV} (e : LocExpr)
    (hs : GoodScope env I sc) (h : GoodArgs env I args) : Safe env (evalLoc sc args e) (Bd I) := by
  cases e with
  | param i start =>
    simp only [evalLoc]
    cases hi : args[i]? with
    | none => exact .bad (by decide)
    | some a =>
      have ha := h a (List.mem_of_getElem? hi)
      cases a with
      | triple s v e' => cases start <;> first | exact .pure ha.2.2 | exact .pure ha.1
      | locRef n => exact .pure ha
  | var n =>
    simp only [evalLoc]
    cases hl : sc.locs.lookup n with
    | none => exact .bad (by decide)
    | some v => exact .pure (hs.1 n v hl)

theorem evalArg_safe {sc : Scope} {args : List ArgV} (e : ArgExpr)
    (hs : GoodScope env I sc) (h : GoodArgs env I args) : Safe env (evalArg sc args e) (GoodArg env I) := by
  cases e with
  | param i =>
    simp only [evalArg]
    cases hi : args[i]? with
    | none => exact .bad (by decide)
    | some a => exact .pure (h a (List.mem_of_getElem? hi))
  | temp n =>
    simp only [evalArg]
    cases hl : sc.temps.lookup n with
    | none => exact .bad (by decide)
    | some v => exact .pure (hs.2 n v hl)
  | loc n =>
    simp only [evalArg]
    cases hl : sc.locs.lookup n with
    | none => exact .bad (by decide)
    | some v => exact .pure (hs.1 n v hl)

theorem runStmts_safe (call : Nat → List ArgV → M Val)
    (hcall : ∀ id args, GoodArgs env I args → Safe env (call id args) (GoodVal env I)) {args : List ArgV} (h : GoodArgs env I args) :
    ∀ (stmts : List Stmt) (sc : Scope), GoodScope env I sc → Safe env (runStmts call args sc stmts) (GoodVal env I)
  | [], _, _ => .bad (by decide)
  | .letLoc n e :: rest, sc, hs => by
    unfold runStmts
    exact (evalLoc_safe e hs h).bind fun v hv => runStmts_safe call hcall h rest _ (hs.loc n hv)
  | .letCall n a as :: rest, sc, hs => by
    unfold runStmts
    refine (Safe.mapM fun e _ => evalArg_safe e hs h).bind fun vs hvs => (hcall a vs hvs).bind fun r hr => ?_
    exact runStmts_safe call hcall h rest _ (hs.temp n ⟨Bd.zero I, hr, Bd.zero I⟩)
  | .letTriple n s e :: rest, sc, hs => by
    unfold runStmts
    refine (evalLoc_safe (.var s) hs h).bind fun sv hsv => (evalLoc_safe (.var e) hs h).bind fun ev hev => ?_
    cases hl : sc.temps.lookup n with
    | none => exact .bad (by decide)
    | some t =>
      cases t with
      | locRef k => exact .bad (by decide)
      | triple a v b => exact runStmts_safe call hcall h rest _ (hs.temp n ⟨hsv, (hs.2 n _ hl).2.1, hev⟩)
  | .ret a as :: _, sc, hs => by
    unfold runStmts
    exact (Safe.mapM fun e _ => evalArg_safe e hs h).bind fun vs hvs => hcall a vs hvs

theorem evalAction_safe (hE : EnvOk env I) (defs : Array ActionDef) :
    ∀ (fuel id : Nat) (args : List ArgV), GoodArgs env I args → Safe env (evalAction defs fuel id args) (GoodVal env I)
  | 0, _, _, _ => .bad (by decide)
  | f + 1, id, args, h => by
    unfold evalAction
    cases defs[id]? with
    | none => exact .bad (by decide)
    | some d =>
      cases d with
      | user ar print =>
        dsimp only
        cases printToLabel.lookup print with
        | none => exact .bad (by decide)
        | some label => exact userAction_safe hE label args h
      | prim ar p => exact evalPrim_safe p h
      | composite ar body => exact runStmts_safe _ (evalAction_safe hE defs f) h body {} goodScope_empty

/-- the hypothesis of `LrInv.parse_outcome_good`, for every table of actions -/
theorem actionsSafe (T : Tables) (env : Env) (I : List Char) (hE : EnvOk env I) : ActionsSafe T env I := by
  intro id args ds h hd
  have := evalAction_safe hE T.actions 16 id args h ds hd
  revert this
  cases (ReaderT.run (evalAction T.actions 16 id args) env).run ds <;> exact fun hh => hh

end Aidl.Props.ActionsSafe
