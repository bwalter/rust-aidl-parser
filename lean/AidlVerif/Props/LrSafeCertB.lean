import AidlVerif.Props.LrSafeCertDefs
import AidlVerif.Lemmas.Checks
namespace Aidl.Props.LrSafe
open Aidl Aidl.Lr
theorem edges_ok : Cert.edgesOK cert = true := by
  unfold Cert.edgesOK Cert.succOf Cert.accOf Cert.predsOf
  rw [Checks.all_range_rows]
  simp only [← Array.getElem?_toList]
  decide +kernel
end Aidl.Props.LrSafe
