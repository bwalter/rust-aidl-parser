import AidlVerif.Props.JavadocTotal

/-!
# C18 — documentation is taken from the directly preceding doc comment, verbatim

About the model of `javadoc.rs`. Here: that a finished scan stays finished, and instances evaluated in the kernel on
concrete texts, among them the unrepaired function (F1, DESIGN.md §6: `pos` counts characters, the slice takes bytes). For
every text: which comment is taken
(`JavadocAttach.findContent_doc`, `findContent_none_token`, `findContent_none_start`), `parse_javadoc` equals a pipeline
without regular expressions (`JavadocSpec.parseJavadoc_eq_spec`), keeps the words (`JavadocWords.parseJavadoc_words`) and
has a closed form on bodies laid out the usual way (`JavadocForm.parseJavadoc_structured`) and on one-line bodies
(`JavadocWords.parseJavadoc_one_line`, in JavadocForm.lean).
NOT proved: a closed form for bodies outside the layout of `JavadocForm` (several blank lines, decoration at the end of a
line, `@` inside a line); there the exact correspondence of the model with the implementation on every doc field and the
generator's expected text decide per run.
-/

namespace Aidl.Props.C18
open Aidl.Javadoc

theorem scan_done_stable (adv : Char → Nat) (s : Scan) (h : s.done = true) (c : Char) : scanStep adv s c = s := by
  unfold scanStep; simp [h]

theorem foldl_done_stable (adv : Char → Nat) (s : Scan) (h : s.done = true) (cs : List Char) :
    cs.foldl (scanStep adv) s = s := by
  induction cs with
  | nil => rfl
  | cons c cs ih => simp [List.foldl_cons, scan_done_stable adv s h c, ih]

theorem javadoc_v0_panics : (findContentV0 "/**é*/".toList).toOption = none := JavadocTotal.v0_panics

theorem javadoc_v0_garbles : (findContentV0 "/** Größe */".toList).toOption = some (some "röße ".toList) := by
  rw [String.toList_ofList, String.toList_ofList]
  decide +kernel

theorem javadoc_fixed : (findContent "/** Größe */".toList).toOption = some (some " Größe ".toList)
    ∧ (findContent "/**é*/".toList).toOption = some (some "é".toList) := by
  rw [String.toList_ofList, String.toList_ofList, String.toList_ofList, String.toList_ofList]
  decide +kernel

theorem previous_member_doc_does_not_attach :
    (findContent "/** doc of f */ void f();\n    ".toList).toOption = some none := by
  rw [String.toList_ofList]
  decide +kernel

theorem nearest_doc :
    (findContent "/** far */ /** near */ /* note */ // line\n  ".toList).toOption = some (some " near ".toList) := by
  rw [String.toList_ofList, String.toList_ofList]
  decide +kernel

theorem paragraphs_and_tags :
    parseJavadoc "\r\n * Größe 日本\r\n * 🎉 ok\r\n *\r\n * second\r\n * @param x é\r\n ".toList
      = "Größe 日本 🎉 ok\nsecond\n@param x é".toList := by
  rw [String.toList_ofList, String.toList_ofList]
  decide +kernel

end Aidl.Props.C18
