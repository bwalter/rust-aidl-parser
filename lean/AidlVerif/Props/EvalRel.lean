import AidlVerif.Props.ActionsRel

/-! The interpreter of the regenerated action table does not look at positions either: `evalAction_rel`, for every table
of actions and every nesting bound. The namespace is that of `ActionsRel`: `tools/props.py` audits
`Aidl.Props.Rel.evalAction_rel`. -/

namespace Aidl.Props.Rel
open Aidl Aidl.Actions Aidl.Lexer Aidl.Erase Aidl.Props.PL

variable {e1 e2 : Env}

theorem erVals_append (a b : List Val) : erVals (a ++ b) = erVals a ++ erVals b := by
  simp [erVals_eq]

theorem evalPrim_rel (p : Prim) (a1 a2 : List ArgV) (h : ArgsRel a1 a2) :
    Rel2 e1 e2 (evalPrim p a1) (evalPrim p a2) (fun v1 v2 => erVal v1 = erVal v2) := by
  unfold evalPrim
  cases p with
  | arg i => exact rel_nth h i
  | some i => exact Rel2.bind (rel_nth h i) (fun v w hv => Rel2.pure _ _ (by simp [erVal, hv]))
  | none => exact Rel2.pure _ _ rfl
  | nil => exact Rel2.pure _ _ rfl
  | sing i => exact Rel2.bind (rel_nth h i) (fun v w hv => Rel2.pure _ _ (by simp [erVal, erVals, hv]))
  | push v e =>
    dsimp only
    refine Rel2.bind (rel_nth h v) (fun l1 l2 hl => ?_)
    refine Rel2.bind (rel_asList hl) (fun m1 m2 hm => ?_)
    refine Rel2.bind (rel_nth h e) (fun x y hx => ?_)
    exact Rel2.pure _ _ (by simp [erVal, erVals_append, erVals, hm, hx])
  | pushOpt v e =>
    dsimp only
    refine Rel2.bind (rel_nth h e) (fun o1 o2 ho => ?_)
    refine Rel2.bind (rel_asOpt ho) (fun p1 p2 hp => ?_)
    cases p1 with
    | none =>
      cases p2 with
      | none => exact rel_nth h v
      | some _ => simp at hp
    | some x =>
      cases p2 with
      | none => simp at hp
      | some y =>
        have hxy : erVal x = erVal y := Option.some.inj hp
        dsimp only
        refine Rel2.bind (rel_nth h v) (fun l1 l2 hl => ?_)
        refine Rel2.bind (rel_asList hl) (fun m1 m2 hm => ?_)
        exact Rel2.pure _ _ (by simp [erVal, erVals_append, erVals, hm, hxy])
  | pair i j =>
    dsimp only
    refine Rel2.bind (rel_nth h i) (fun a b ha => ?_)
    refine Rel2.bind (rel_nth h j) (fun c d hc => ?_)
    exact Rel2.pure _ _ (by simp [erVal, ha, hc])

def TempsRel (t1 t2 : List (String × ArgV)) : Prop :=
  ∀ n, (t1.lookup n).map erArgV = (t2.lookup n).map erArgV

theorem TempsRel.cons {t1 t2 : List (String × ArgV)} (h : TempsRel t1 t2) (n : String) {a b : ArgV} (hab : erArgV a = erArgV b) :
    TempsRel ((n, a) :: t1) ((n, b) :: t2) := fun m => by
  rw [List.lookup_cons, List.lookup_cons]
  cases m == n
  · exact h m
  · exact congrArg some hab

theorem evalArg_rel (sc1 sc2 : Scope) (a1 a2 : List ArgV) (e : ArgExpr) (hs : TempsRel sc1.temps sc2.temps)
    (h : ArgsRel a1 a2) : Rel2 e1 e2 (evalArg sc1 a1 e) (evalArg sc2 a2 e) (fun x y => erArgV x = erArgV y) := by
  cases e with
  | param i =>
    simp only [evalArg]
    have hi := h.get i
    cases h1 : a1[i]? with
    | none => exact Rel2.bad_left _ _ _
    | some x =>
      cases h2 : a2[i]? with
      | none => exact Rel2.bad_right _ _ _
      | some y => rw [h1, h2] at hi; exact Rel2.pure _ _ (Option.some.inj hi)
  | temp n =>
    simp only [evalArg]
    have hl := hs n
    cases h1 : sc1.temps.lookup n with
    | none => exact Rel2.bad_left _ _ _
    | some x =>
      cases h2 : sc2.temps.lookup n with
      | none => exact Rel2.bad_right _ _ _
      | some y => rw [h1, h2] at hl; exact Rel2.pure _ _ (Option.some.inj hl)
  | loc n =>
    simp only [evalArg]
    cases sc1.locs.lookup n with
    | none => exact Rel2.bad_left _ _ _
    | some x =>
      cases sc2.locs.lookup n with
      | none => exact Rel2.bad_right _ _ _
      | some y => exact Rel2.pure _ _ rfl

theorem runStmts_rel (call : Nat → List ArgV → M Val)
    (hcall : ∀ id v1 v2, ArgsRel v1 v2 → Rel2 e1 e2 (call id v1) (call id v2) (fun r1 r2 => erVal r1 = erVal r2))
    (a1 a2 : List ArgV) (h : ArgsRel a1 a2) :
    ∀ (stmts : List Stmt) (sc1 sc2 : Scope), TempsRel sc1.temps sc2.temps →
      Rel2 e1 e2 (runStmts call a1 sc1 stmts) (runStmts call a2 sc2 stmts) (fun r1 r2 => erVal r1 = erVal r2) := by
  intro stmts
  induction stmts with
  | nil => intro sc1 sc2 _; unfold runStmts; exact Rel2.bad_left _ _ _
  | cons st rest ih =>
    intro sc1 sc2 hs
    cases st with
    | letLoc n e =>
      unfold runStmts
      exact Rel2.bind (rel_any _ _) (fun v w _ => ih _ _ hs)
    | letCall n a as =>
      unfold runStmts
      refine Rel2.bind (Rel2.mapM₂ _ _ id erArgV (fun e b (he : e = b) => he ▸ evalArg_rel sc1 sc2 a1 a2 e hs h) as as rfl)
        (fun vs ws hvs => ?_)
      refine Rel2.bind (hcall a vs ws hvs) (fun r s hr => ?_)
      exact ih _ _ (hs.cons n (by rw [erArgV, erArgV, hr]))
    | letTriple n s e =>
      unfold runStmts
      refine Rel2.bind (rel_any _ _) fun sv sw _ => Rel2.bind (rel_any _ _) fun ev ew _ => ?_
      have hl := hs n
      split
      · next h1 =>
        split
        · next h2 =>
          rw [h1, h2] at hl
          exact ih _ _ (hs.cons n (by simpa [erArgV] using hl))
        · exact Rel2.bad_right _ _ _
      · exact Rel2.bad_left _ _ _
    | ret a as =>
      unfold runStmts
      refine Rel2.bind (Rel2.mapM₂ _ _ id erArgV (fun e b (he : e = b) => he ▸ evalArg_rel sc1 sc2 a1 a2 e hs h) as as rfl)
        (fun vs ws hvs => ?_)
      exact hcall a vs ws hvs

theorem evalAction_rel (defs : Array ActionDef) :
    ∀ (fuel id : Nat) (a1 a2 : List ArgV), ArgsRel a1 a2 →
      Rel2 e1 e2 (evalAction defs fuel id a1) (evalAction defs fuel id a2) (fun r1 r2 => erVal r1 = erVal r2) := by
  intro fuel
  induction fuel with
  | zero => intro id a1 a2 _; unfold evalAction; exact Rel2.bad_left _ _ _
  | succ f ih =>
    intro id a1 a2 h
    unfold evalAction
    cases hd : defs[id]? with
    | none => exact Rel2.bad_left _ _ _
    | some d =>
      cases d with
      | user ar print =>
        dsimp only
        cases hl : printToLabel.lookup print with
        | none => exact Rel2.bad_left _ _ _
        | some label => exact userAction_rel label a1 a2 h
      | prim ar p => exact evalPrim_rel p a1 a2 h
      | composite ar body => exact runStmts_rel _ ih a1 a2 h body {} {} fun _ => rfl

end Aidl.Props.Rel
