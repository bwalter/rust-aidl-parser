import AidlVerif.Props.LexRuns
import AidlVerif.Props.C02Layout

/-!
A declarative lexical specification. `Skips s r`: `r` is what is left of `s` after white-space runs, line comments and
block comments. `TokenAt s j w rest`: `s` begins with the lexeme `w` of entry `j` (a word, a punctuation character, a
string literal, an annotation name, an integer or other number-like run, `-` or `.`) and `rest` follows, in a way that
ends the lexeme there. `LexesTo s toks`: `s` is lexemes separated by skipped text, up to the end.
These are relations on TEXTS: the lexer loop and its step bound do not appear in them. The table enters through the
entry numbers, the character sets read off it (`punctEntries`, `sharedEntries`, `floatStart`, `floatChars`) and, for
words and number-like runs, `fullOn`: the matcher on the run alone, never on what follows it.

The lexer of this run's table does what the relations say (`lexToks_of_lexesTo`); this discharges the hypothesis of
`layout_independent`, that two evaluations of the lexer agree: `relayout_same_tree`.
-/

namespace Aidl.Props.LexSpec
open Aidl Aidl.Lr Aidl.Actions Aidl.Erase Aidl.Props.LrInv
open Aidl.Regex Aidl.Lexer Aidl.Javadoc Aidl.Props.JavadocTotal Aidl.Props.LexerBounds
  Aidl.Props.RegexSound Aidl.Props.JavadocSpec Aidl.Props.SkipEntries Aidl.Props.LexSkip Aidl.Props.LexerFuel Aidl.Props.LexIdent
  Aidl.Props.LexTokens Aidl.Props.LexNumbers Aidl.Props.LexRuns

/-- the lexer at `s`, with the step bound the parser model uses -/
def N (s : List Char) (p : Nat) : LexResult := next Gen.lexTable (s.length + 1) s p

inductive Skips : List Char → List Char → Prop
  | done (s : List Char) : Skips s s
  | ws (run rest r : List Char) : run ≠ [] → (∀ c ∈ run, isWsChar c = true) → (∀ c t, rest = c :: t → isWsChar c = false) →
      Skips rest r → Skips (run ++ rest) r
  | line (t r : List Char) : Skips ((t.dropWhile isNotEol).dropWhile isEol) r → Skips ('/' :: '/' :: t) r
  | block (u rest r : List Char) : firstClose false u 0 = some u.length → Skips rest r → Skips ('/' :: '*' :: (u ++ rest)) r

theorem length_dropWhile_le {α} (q : α → Bool) (l : List α) : (l.dropWhile q).length ≤ l.length :=
  (List.dropWhile_sublist q).length_le

theorem Skips.length_le {s r : List Char} (h : Skips s r) : r.length ≤ s.length := by
  induction h with
  | done s => exact Nat.le_refl _
  | ws run rest r _ _ _ _ ih => rw [List.length_append]; omega
  | line t r _ ih =>
    have h1 := length_dropWhile_le isEol (t.dropWhile isNotEol)
    have h2 := length_dropWhile_le isNotEol t
    simp only [List.length_cons]; omega
  | block u rest r _ _ ih => simp only [List.length_cons, List.length_append]; omega

theorem N_step {s r : List Char} {p q : Nat} (h : next Gen.lexTable (s.length + 1) s p = next Gen.lexTable s.length r q)
    (hlen : r.length < s.length) : N s p = N r q := by
  unfold N
  rw [h]
  exact next_fuel _ _ _ r q hlen (Nat.lt_succ_self _)

theorem N_skips {s r : List Char} (h : Skips s r) : ∀ p, ∃ q, N s p = N r q := by
  induction h with
  | done s => intro p; exact ⟨p, rfl⟩
  | ws run rest r hne hrun hout _ ih =>
    intro p
    obtain ⟨q, hq⟩ := ih (p + utf8Len run)
    refine ⟨q, (N_step (next_skips_ws _ run rest p hne hrun hout (Nat.le_succ _)) ?_).trans hq⟩
    have := List.length_pos_iff.mpr hne
    rw [List.length_append]
    omega
  | line t r _ ih =>
    intro p
    obtain ⟨q, hq⟩ := ih (p + (2 + utf8Len (t.takeWhile isNotEol) + utf8Len ((t.dropWhile isNotEol).takeWhile isEol)))
    refine ⟨q, (N_step (next_skips_line _ t p (Nat.le_succ _)) ?_).trans hq⟩
    have h1 := length_dropWhile_le isEol (t.dropWhile isNotEol)
    have h2 := length_dropWhile_le isNotEol t
    simp only [List.length_cons]
    omega
  | block u rest r hclose _ ih =>
    intro p
    obtain ⟨q, hq⟩ := ih (p + utf8Len ('/' :: '*' :: u))
    refine ⟨q, (N_step (next_skips_block _ u rest p hclose (Nat.le_succ _)) ?_).trans hq⟩
    simp only [List.length_cons, List.length_append]
    omega

inductive TokenAt : List Char → Nat → List Char → List Char → Prop
  /-- an identifier or reserved word: the entry is the last one that matches the whole word -/
  | word (c : Char) (t rest : List Char) (j : Nat) :
      inCls identStartCls c = true → (∀ d ∈ t, isIdentPart d = true) → (∀ d u, rest = d :: u → isIdentPart d = false) →
      j < Gen.lexTable.size → fullOn j (c :: t) = true → (∀ i, i < Gen.lexTable.size → fullOn i (c :: t) = true → i ≤ j) →
      TokenAt (c :: t ++ rest) j (c :: t) rest
  | punct (j a : Nat) (c : Char) (rest : List Char) : (j, a) ∈ punctEntries → c.toNat = a → TokenAt (c :: rest) j [c] rest
  | str (body rest : List Char) : (∀ d ∈ body, isStrBody d = true) →
      TokenAt ('"' :: body ++ '"' :: rest) strIdx ('"' :: body ++ ['"']) rest
  | ann (c : Char) (t rest : List Char) :
      inCls identStartCls c = true → (∀ d ∈ t, isIdentPart d = true) → (∀ d u, rest = d :: u → isIdentPart d = false) →
      TokenAt ('@' :: c :: t ++ rest) annIdx ('@' :: c :: t) rest
  | int (c : Char) (t rest : List Char) :
      isDigit c = true → (∀ d ∈ t, isDigit d = true) → (∀ d u, rest = d :: u → inCls floatChars d = false) →
      TokenAt (c :: t ++ rest) intIdx (c :: t) rest
  /-- a number-like run (INTEGER, FLOAT, or `-` / `.` alone): a sign, digit or dot and the maximal run of characters
      a FLOAT can use; the entry is the last one that matches the whole run -/
  | number (c : Char) (t rest : List Char) (j : Nat) :
      inCls floatStart c = true → (∀ d u, rest = d :: u → inCls floatChars d = false) →
      j < Gen.lexTable.size → fullOn j (c :: t) = true → (∀ i, i < Gen.lexTable.size → fullOn i (c :: t) = true → i ≤ j) →
      TokenAt (c :: t ++ rest) j (c :: t) rest
  /-- `-` or `.` not followed by what could continue a number -/
  | shared (j a o : Nat) (rest : List Char) : (j, a, o) ∈ sharedEntries →
      (∀ d u, rest = d :: u → inCls (firstCls (deriv Gen.lexTable[o]!.1 (Char.ofNat a))) d = false) →
      TokenAt (Char.ofNat a :: rest) j [Char.ofNat a] rest

theorem TokenAt.shape {s w rest : List Char} {j : Nat} (h : TokenAt s j w rest) : s = w ++ rest ∧ w ≠ [] := by
  cases h <;> simp

theorem TokenAt.cast {s s' w rest : List Char} {j : Nat} (h : TokenAt s j w rest) (hs : s = s') : TokenAt s' j w rest :=
  hs ▸ h

theorem N_token {s w rest : List Char} {j : Nat} (h : TokenAt s j w rest) (p : Nat) :
    N s p = .token { start := p, index := j, text := String.ofList w, stop := p + utf8Len w } rest := by
  unfold N
  cases h with
  | word c t rest j hc ht hout hj hjf hmax =>
    obtain ⟨j', hj', hjf', hmax', hnext⟩ := next_word (c :: t ++ rest).length c t rest p hc ht hout (Nat.le_refl _)
    have : j' = j := Nat.le_antisymm (hmax j' hj' hjf') (hmax' j hj hjf)
    rw [hnext, this]
  | punct j a c rest hmem hc =>
    rw [next_punct j a hmem c hc (c :: rest).length rest p, utf8Len_cons, utf8Len_nil, Nat.add_zero]
  | str body rest hbody =>
    exact string_token _ body rest p hbody (by simp only [List.cons_append, List.length_cons]; omega)
  | ann c t rest hc ht hout =>
    exact ann_token _ c t rest p hc ht hout (by simp only [List.cons_append, List.length_cons]; omega)
  | int c t rest hc ht hout =>
    rw [next_integer (c :: t ++ rest).length c t rest p hc ht hout (Nat.le_refl _)]
  | number c t rest j hc hout hj hjf hmax =>
    obtain ⟨j', hj', hjf', hmax', hnext⟩ := next_numberlike (c :: t ++ rest).length c t rest p hc hout (Nat.le_refl _) j hj hjf
    have : j' = j := Nat.le_antisymm (hmax j' hj' hjf') (hmax' j hj hjf)
    rw [hnext, this]
  | shared j a o rest hmem hrest =>
    rw [next_after_char j a o hmem (Char.ofNat a :: rest).length rest p hrest, utf8Len_cons, utf8Len_nil, Nat.add_zero]

inductive LexesTo : List Char → List (Nat × String) → Prop
  | eof (s : List Char) : Skips s [] → LexesTo s []
  | tok (s s' w rest : List Char) (j : Nat) (toks : List (Nat × String)) :
      Skips s s' → TokenAt s' j w rest → LexesTo rest toks → LexesTo s ((j, String.ofList w) :: toks)

theorem lexToks_N (f : Nat) (s : List Char) (p : Nat) : lexToks Driver.Parse.tables (f + 1) s p =
    match N s p with
    | .eof => some ([], true)
    | .invalid _ => some ([], false)
    | .token t r => (lexToks Driver.Parse.tables f r t.stop).map fun le => ((t.index, t.text) :: le.1, le.2) := by
  rw [lexToks]
  rfl

theorem lexToks_of_lexesTo {s : List Char} {toks : List (Nat × String)} (h : LexesTo s toks) :
    ∀ (f p : Nat), s.length < f → lexToks Driver.Parse.tables f s p = some (toks, true) := by
  induction h with
  | eof s hs =>
    intro f p hf
    obtain ⟨f, rfl⟩ : ∃ n, f = n + 1 := ⟨f - 1, by omega⟩
    obtain ⟨q, hq⟩ := N_skips hs p
    rw [lexToks_N, hq]
    rfl
  | tok s s' w rest j toks hs ht _ ih =>
    intro f p hf
    obtain ⟨f, rfl⟩ : ∃ n, f = n + 1 := ⟨f - 1, by omega⟩
    obtain ⟨q, hq⟩ := N_skips hs p
    have hlen : rest.length < f := by
      have h1 := hs.length_le
      obtain ⟨h2, h3⟩ := ht.shape
      have := List.length_pos_iff.mpr h3
      rw [h2, List.length_append] at h1
      omega
    rw [lexToks_N, hq, N_token ht q]
    simp only
    rw [ih f _ hlen]
    rfl

theorem lexesTo_unique {s : List Char} {t1 t2 : List (Nat × String)} (h1 : LexesTo s t1) (h2 : LexesTo s t2) : t1 = t2 := by
  have e1 := lexToks_of_lexesTo h1 _ 0 (Nat.lt_succ_self _)
  have e2 := lexToks_of_lexesTo h2 _ 0 (Nat.lt_succ_self _)
  rw [e1] at e2
  simp only [Option.some.injEq, Prod.mk.injEq, and_true] at e2
  exact e2

/-- Layout independence, stated on the texts (C02): two texts that are layouts of the same lexemes, whatever white
    space, line endings and comments separate them, whatever the two line/column lookups, give trees that are equal up
    to positions and documentation (or both none). -/
theorem relayout_same_tree (env1 env2 : Env) (id1 id2 text1 text2 : String)
    (hE1 : EnvOk env1 text1.toList) (hE2 : EnvOk env2 text2.toList) (toks : List (Nat × String))
    (h1 : LexesTo text1.toList toks) (h2 : LexesTo text2.toList toks) :
    ∃ r1 r2, addContentE Driver.Parse.tables env1 id1 text1 = .ok r1
      ∧ addContentE Driver.Parse.tables env2 id2 text2 = .ok r2
      ∧ r1.ast.map erAidl = r2.ast.map erAidl :=
  C02Layout.layout_independent env1 env2 id1 id2 text1 text2 hE1 hE2 (toks, true)
    (lexToks_of_lexesTo h1 _ 0 (Nat.lt_succ_self _)) (lexToks_of_lexesTo h2 _ 0 (Nat.lt_succ_self _))

/-! `a;` by hand; another layout of it, with every kind of skipped text, goes through the checker of `LexCheck`. -/

def semiIdx : Nat := Gen.lexTable.toList.idxOf (Re.cls [(59, 59)], false)

theorem word_a (rest : List Char) (h : ∀ d u, rest = d :: u → isIdentPart d = false) : TokenAt ('a' :: [] ++ rest) identIdx ['a'] rest :=
  TokenAt.word 'a' [] rest identIdx (by decide) (fun _ h => by cases h) h identIdx_entry.1 (by decide +kernel) (by decide +kernel)

theorem semi_tok (rest : List Char) : TokenAt (';' :: rest) semiIdx [';'] rest :=
  TokenAt.punct semiIdx 59 ';' rest ((mem_punctEntries _ _).mpr (by decide +kernel)) (by decide)

example : LexesTo "a;".toList [(identIdx, "a"), (semiIdx, ";")] :=
  LexesTo.tok _ _ ['a'] [';'] identIdx _ (Skips.done _) (word_a [';'] (fun d u h => by cases h; decide))
    (LexesTo.tok _ _ [';'] [] semiIdx _ (Skips.done _) (semi_tok []) (LexesTo.eof _ (Skips.done _)))

end Aidl.Props.LexSpec
