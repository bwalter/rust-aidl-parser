import AidlVerif.Props.LrComplete
import AidlVerif.Gen.LrItems
import AidlVerif.Driver.Parse

/-!
The completeness certificate of THIS run's tables — the LR(1) items of every state, `nullable`,
`FIRST` — is accepted by the checker `LrComplete.ok` (kernel evaluation).
-/

namespace Aidl.Props.LrComplete
open Aidl Aidl.Lr

/-- the certificate computed by the translator for the tables of this run -/
def its : Items :=
  { items := Gen.certItems, actRow := Gen.certActRow, eofAct := Gen.certEofAct, nullable := Gen.certNullable
    first := Gen.certFirst, info := Gen.certInfo, prodsOf := Gen.certProdsOf, nstates := Gen.certNStates }

theorem its_ok : ok Driver.Parse.tables its = true := by
  unfold ok actRowOK eofOK actionAt eofActionAt
  simp only [← Array.getElem?_toList]
  decide +kernel

theorem itemFacts_run : ItemFacts Driver.Parse.tables its := itemFacts _ _ its_ok

end Aidl.Props.LrComplete
