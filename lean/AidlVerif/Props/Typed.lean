import AidlVerif.Model.Typing
import AidlVerif.Lemmas.RunM
import AidlVerif.Lemmas.Types

/-!
`HasTy E t v`: the untyped value `v` has the Rust type `t`, and every `Type` inside it has the arity of its kind (`TyWF`:
what `check_container` of validation.rs relies on; no Rust type says it, `tree_arities` rests on it); `E` = "an Error has
been reported" (an `optNS` value may be `None` only then).
-/

namespace Aidl.Props.Typed
open Aidl Aidl.Actions Aidl.Typing Aidl.Lexer

def hasError (ds : List Diag) : Prop := ∃ d ∈ ds, d.kind = .error

/-- what `check_container` of validation.rs relies on (it indexes `generic_types`, and has `unreachable!()` for the other
    lengths); no node is `Resolved`: the grammar actions never write that kind, it is validation's to assign -/
def tyArity (t : Ty) : Bool :=
  match t.kind with
  | .array => t.gens.length ≥ 1
  | .list => t.gens.length ≤ 1
  | .map => t.gens.length = 0 ∨ t.gens.length = 2
  | .resolved _ _ => false
  | _ => true

/-- the kinds the grammar writes on a type without parameters (`simple_type`, `non_generic_list`, `non_generic_map`,
    `TypeCustom`) -/
def leafKind : TypeKind → Bool
  | .array => false
  | .resolved _ _ => false
  | _ => true

def TyWF (t : Ty) : Prop := ∀ u ∈ Ty.walkOrder t, tyArity u = true

theorem TyWF.leaf (n : String) (k : TypeKind) (s f : Range) (hk : leafKind k = true) : TyWF (.mk n k [] s f) := by
  intro u hu
  have hk' : k ≠ .array := by intro h; subst h; cases hk
  simp only [Ty.walkOrder, hk', if_false, Ty.walkOrderList, List.mem_cons, List.not_mem_nil, or_false] at hu
  subst hu
  cases k with
  | array => cases hk
  | resolved a b => cases hk
  | _ => simp [tyArity, Ty.kind, Ty.gens]

theorem TyWF.array (n : String) (t : Ty) (s f : Range) (h : TyWF t) : TyWF (.mk n .array [t] s f) := by
  intro u hu
  simp only [Ty.walkOrder, if_true, Ty.walkOrderList, List.append_nil, List.mem_append, List.mem_cons,
    List.not_mem_nil, or_false] at hu
  rcases hu with hu | rfl
  · exact h u hu
  · simp [tyArity, Ty.kind, Ty.gens]

theorem TyWF.list1 (n : String) (t : Ty) (s f : Range) (h : TyWF t) : TyWF (.mk n .list [t] s f) := by
  intro u hu
  simp only [Ty.walkOrder, Ty.walkOrderList, List.append_nil, List.mem_cons, reduceCtorEq, if_false] at hu
  rcases hu with rfl | hu
  · simp [tyArity, Ty.kind, Ty.gens]
  · exact h u hu

theorem TyWF.map2 (n : String) (a b : Ty) (s f : Range) (ha : TyWF a) (hb : TyWF b) : TyWF (.mk n .map [a, b] s f) := by
  intro u hu
  simp only [Ty.walkOrder, Ty.walkOrderList, List.append_nil, List.mem_cons, List.mem_append, reduceCtorEq, if_false] at hu
  rcases hu with rfl | hu | hu
  · simp [tyArity, Ty.kind, Ty.gens]
  · exact ha u hu
  · exact hb u hu

def ItemWF : Item → Prop
  | .interface i => ∀ e ∈ i.elements, ∀ t ∈ e.topTypes, TyWF t
  | .parcelable p => ∀ e ∈ p.elements, ∀ t ∈ e.topTypes, TyWF t
  | .enum _ => True

def HasTy (E : Prop) : VTy → Val → Prop
  | .tok, .tok _ => True
  | .dtok, .tok t => t = "in" ∨ t = "out" ∨ t = "inout"
  | .loc, .loc _ => True
  | .str, .str _ => True
  | .recovery, .recovery _ _ => True
  | .opt _, .none_ => True
  | .opt t, .some_ v => HasTy E t v
  | .optNS _, .none_ => E
  | .optNS t, .some_ v => HasTy E t v
  | .list t, .list l => ∀ x ∈ l, HasTy E t x
  | .pair a b, .pair x y => HasTy E a x ∧ HasTy E b y
  | .package, .package _ => True
  | .import_, .import_ _ => True
  | .ty, .ty t => TyWF t
  | .dir, .dir _ => True
  | .ann, .ann _ => True
  | .arg, .arg a => TyWF a.argType
  | .method, .method m => TyWF m.returnType ∧ ∀ a ∈ m.args, TyWF a.argType
  | .const, .const c => TyWF c.constType
  | .field, .field f => TyWF f.fieldType
  | .enumEl, .enumEl _ => True
  | .iel, .iel e => ∀ t ∈ e.topTypes, TyWF t
  | .pel, .pel e => ∀ t ∈ e.topTypes, TyWF t
  | .iface, .iface i => ItemWF (.interface i)
  | .parc, .parc p => ItemWF (.parcelable p)
  | .enm, .enm _ => True
  | .item, .item it => ItemWF it
  | .aidl, .aidl a => ItemWF a.item
  | _, _ => False

theorem hasTy_tok (E : Prop) (v : Val) : HasTy E .tok v ↔ ∃ x, v = .tok x := by
  cases v <;> simp [HasTy]
theorem hasTy_dtok (E : Prop) (v : Val) : HasTy E .dtok v ↔ ∃ x, v = .tok x ∧ (x = "in" ∨ x = "out" ∨ x = "inout") := by
  cases v <;> simp [HasTy]
theorem hasTy_loc (E : Prop) (v : Val) : HasTy E .loc v ↔ ∃ x, v = .loc x := by
  cases v <;> simp [HasTy]
theorem hasTy_str (E : Prop) (v : Val) : HasTy E .str v ↔ ∃ x, v = .str x := by
  cases v <;> simp [HasTy]
theorem hasTy_package (E : Prop) (v : Val) : HasTy E .package v ↔ ∃ x, v = .package x := by
  cases v <;> simp [HasTy]
theorem hasTy_import_ (E : Prop) (v : Val) : HasTy E .import_ v ↔ ∃ x, v = .import_ x := by
  cases v <;> simp [HasTy]
theorem hasTy_ty (E : Prop) (v : Val) : HasTy E .ty v ↔ ∃ x, v = .ty x ∧ TyWF x := by
  cases v <;> simp [HasTy]
theorem hasTy_dir (E : Prop) (v : Val) : HasTy E .dir v ↔ ∃ x, v = .dir x := by
  cases v <;> simp [HasTy]
theorem hasTy_ann (E : Prop) (v : Val) : HasTy E .ann v ↔ ∃ x, v = .ann x := by
  cases v <;> simp [HasTy]
theorem hasTy_arg (E : Prop) (v : Val) : HasTy E .arg v ↔ ∃ x, v = .arg x ∧ TyWF x.argType := by
  cases v <;> simp [HasTy]
theorem hasTy_method (E : Prop) (v : Val) : HasTy E .method v ↔ ∃ x, v = .method x ∧ (TyWF x.returnType ∧ ∀ a ∈ x.args, TyWF a.argType) := by
  cases v <;> simp [HasTy]
theorem hasTy_const (E : Prop) (v : Val) : HasTy E .const v ↔ ∃ x, v = .const x ∧ TyWF x.constType := by
  cases v <;> simp [HasTy]
theorem hasTy_field (E : Prop) (v : Val) : HasTy E .field v ↔ ∃ x, v = .field x ∧ TyWF x.fieldType := by
  cases v <;> simp [HasTy]
theorem hasTy_enumEl (E : Prop) (v : Val) : HasTy E .enumEl v ↔ ∃ x, v = .enumEl x := by
  cases v <;> simp [HasTy]
theorem hasTy_iel (E : Prop) (v : Val) : HasTy E .iel v ↔ ∃ x, v = .iel x ∧ (∀ t ∈ x.topTypes, TyWF t) := by
  cases v <;> simp [HasTy]
theorem hasTy_pel (E : Prop) (v : Val) : HasTy E .pel v ↔ ∃ x, v = .pel x ∧ (∀ t ∈ x.topTypes, TyWF t) := by
  cases v <;> simp [HasTy]
theorem hasTy_iface (E : Prop) (v : Val) : HasTy E .iface v ↔ ∃ x, v = .iface x ∧ ItemWF (.interface x) := by
  cases v <;> simp [HasTy]
theorem hasTy_parc (E : Prop) (v : Val) : HasTy E .parc v ↔ ∃ x, v = .parc x ∧ ItemWF (.parcelable x) := by
  cases v <;> simp [HasTy]
theorem hasTy_enm (E : Prop) (v : Val) : HasTy E .enm v ↔ ∃ x, v = .enm x := by
  cases v <;> simp [HasTy]
theorem hasTy_item (E : Prop) (v : Val) : HasTy E .item v ↔ ∃ x, v = .item x ∧ ItemWF x := by
  cases v <;> simp [HasTy]
theorem hasTy_aidl (E : Prop) (v : Val) : HasTy E .aidl v ↔ ∃ x, v = .aidl x ∧ ItemWF x.item := by
  cases v <;> simp [HasTy]
theorem hasTy_recovery (E : Prop) (v : Val) : HasTy E .recovery v ↔ ∃ e d, v = .recovery e d := by
  cases v <;> simp [HasTy]
theorem hasTy_opt (E : Prop) (t : VTy) (v : Val) : HasTy E (.opt t) v ↔ v = .none_ ∨ ∃ w, v = .some_ w ∧ HasTy E t w := by
  constructor
  · intro h
    cases v <;> first | exact .inl rfl | exact .inr ⟨_, rfl, h⟩ | exact h.elim
  · rintro (rfl | ⟨w, rfl, h⟩)
    · trivial
    · exact h
theorem hasTy_optNS (E : Prop) (t : VTy) (v : Val) :
    HasTy E (.optNS t) v ↔ (v = .none_ ∧ E) ∨ ∃ w, v = .some_ w ∧ HasTy E t w := by
  constructor
  · intro h
    cases v <;> first | exact .inl ⟨rfl, h⟩ | exact .inr ⟨_, rfl, h⟩ | exact h.elim
  · rintro (⟨rfl, h⟩ | ⟨w, rfl, h⟩) <;> exact h
theorem hasTy_list (E : Prop) (t : VTy) (v : Val) : HasTy E (.list t) v ↔ ∃ l, v = .list l ∧ ∀ x ∈ l, HasTy E t x := by
  constructor
  · intro h
    cases v <;> first | exact ⟨_, rfl, h⟩ | exact h.elim
  · rintro ⟨l, rfl, h⟩
    exact h
theorem hasTy_pair (E : Prop) (a b : VTy) (v : Val) :
    HasTy E (.pair a b) v ↔ ∃ x y, v = .pair x y ∧ HasTy E a x ∧ HasTy E b y := by
  constructor
  · intro h
    cases v <;> first | exact ⟨_, _, rfl, h⟩ | exact h.elim
  · rintro ⟨x, y, rfl, h⟩
    exact h

theorem HasTy.mono {E E' : Prop} (h : E → E') : ∀ (t : VTy) (v : Val), HasTy E t v → HasTy E' t v := by
  intro t
  induction t with
  | opt t ih =>
    intro v hv
    rw [hasTy_opt] at hv ⊢
    exact hv.imp id fun ⟨w, h1, h2⟩ => ⟨w, h1, ih w h2⟩
  | optNS t ih =>
    intro v hv
    rw [hasTy_optNS] at hv ⊢
    exact hv.imp (And.imp_right h) fun ⟨w, h1, h2⟩ => ⟨w, h1, ih w h2⟩
  | list t ih =>
    intro v hv
    rw [hasTy_list] at hv ⊢
    obtain ⟨l, h1, h2⟩ := hv
    exact ⟨l, h1, fun x hx => ih x (h2 x hx)⟩
  | pair a b iha ihb =>
    intro v hv
    rw [hasTy_pair] at hv ⊢
    obtain ⟨x, y, h1, h2, h3⟩ := hv
    exact ⟨x, y, h1, iha x h2, ihb y h3⟩
  | _ => intro v hv; cases v <;> exact hv

def HasATy (E : Prop) : ATy → ArgV → Prop
  | .triple t, .triple _ v _ => HasTy E t v
  | .locRef, .locRef _ => True
  | _, _ => False

def ArgsTyped (E : Prop) : List ATy → List ArgV → Prop
  | [], [] => True
  | t :: ts, a :: as => HasATy E t a ∧ ArgsTyped E ts as
  | _, _ => False

theorem HasATy.mono {E E' : Prop} (h : E → E') {t : ATy} {a : ArgV} (ha : HasATy E t a) : HasATy E' t a := by
  cases t <;> cases a <;> simp_all [HasATy]
  exact HasTy.mono h _ _ ha

theorem ArgsTyped.mono {E E' : Prop} (h : E → E') : ∀ {ts : List ATy} {as : List ArgV}, ArgsTyped E ts as → ArgsTyped E' ts as
  | [], [], _ => trivial
  | _ :: _, _ :: _, ⟨h1, h2⟩ => ⟨h1.mono h, ArgsTyped.mono h h2⟩
  | [], _ :: _, h' => h'.elim
  | _ :: _, [], h' => h'.elim

theorem ArgsTyped.get {E : Prop} : ∀ {ts : List ATy} {as : List ArgV} {i : Nat} {t : ATy},
    ArgsTyped E ts as → ts[i]? = some t → ∃ a, as[i]? = some a ∧ HasATy E t a
  | [], [], _, _, _, h => by cases h
  | t :: ts, a :: as, 0, t', ⟨h1, _⟩, h => by cases h; exact ⟨a, rfl, h1⟩
  | t :: ts, a :: as, i + 1, t', ⟨_, h2⟩, h => by
      have := ArgsTyped.get (i := i) h2 (by simpa using h)
      simpa using this
  | [], _ :: _, _, _, h', _ => h'.elim
  | _ :: _, [], _, _, h', _ => h'.elim

/-- the one kind left, `bounds`, is excluded in `ActionsSafe` -/
def OkKind (p : Panic) : Prop := p.kind ≠ .shape ∧ p.kind ≠ .table ∧ p.kind ≠ .lexical

def Pur {α} (env : Env) (x : M α) (P : α → Prop) : Prop :=
  ∀ ds, match (x.run env).run ds with
    | .ok (a, ds') => ds' = ds ∧ P a
    | .error p => OkKind p

variable {env : Env}

theorem Pur.pure {α} {P : α → Prop} {a : α} (h : P a) : Pur env (pure a : M α) P := fun _ => ⟨rfl, h⟩

theorem Pur.bad {α} {P : α → Prop} (k : PanicKind) (m : String) (h1 : k ≠ .shape) (h2 : k ≠ .table) (h3 : k ≠ .lexical) :
    Pur env (bad k m : M α) P := fun _ => ⟨h1, h2, h3⟩

theorem Pur.bind {α β} {P : α → Prop} {Q : β → Prop} {x : M α} {f : α → M β}
    (hx : Pur env x P) (hf : ∀ a, P a → Pur env (f a) Q) : Pur env (x >>= f) Q :=
  fun ds => PL.Wp.bind (PL.Wp.mono (hx ds) fun a _ h => h.1 ▸ hf a h.2 ds)

theorem Pur.mono {α} {P Q : α → Prop} {x : M α} (hx : Pur env x P) (h : ∀ a, P a → Q a) : Pur env x Q :=
  fun ds => PL.Wp.mono (hx ds) fun a _ hh => ⟨hh.1, h a hh.2⟩

theorem Pur.map {α β} {P : α → Prop} {Q : β → Prop} {x : M α} {g : α → β}
    (hx : Pur env x P) (h : ∀ a, P a → Q (g a)) : Pur env (g <$> x) Q :=
  (bind_pure_comp g x) ▸ hx.bind fun a ha => .pure (h a ha)

theorem Pur.mapM {α β} {P : β → Prop} {f : α → M β} :
    ∀ {l : List α}, (∀ a ∈ l, Pur env (f a) P) → Pur env (l.mapM f) (fun r => ∀ b ∈ r, P b)
  | [], _ => List.mapM_nil (f := f) ▸ .pure (by simp)
  | a :: l, h => List.mapM_cons (f := f) ▸
      (h a (List.mem_cons_self ..)).bind fun _ hb => (Pur.mapM fun a' ha' => h a' (List.mem_cons_of_mem _ ha')).bind fun _ hbs =>
        .pure (List.forall_mem_cons.mpr ⟨hb, hbs⟩)

theorem pur_bind_pure {α β} {Q : β → Prop} {a : α} {f : α → M β} (h : Pur env (f a) Q) : Pur env (pure a >>= f) Q :=
  (pure_bind a f).symm ▸ h

end Aidl.Props.Typed
