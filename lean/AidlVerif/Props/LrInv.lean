import AidlVerif.Props.LrSafe
import AidlVerif.Props.LexerBounds

/-!
`Inv`: the stack is a certified chain (`LrSafe.Chain`) AND every location anywhere in the state — in
symbols, in semantic values, in dropped tokens, in errors, the lexer position — is a character
boundary of the input; every position of a range inside a tree value moreover carries the line and column the lookup
gives its offset (`PosGood`), and so do the ranges of the diagnostics pushed so far, whose context messages are those of
the syntax stage (`DiagLc`; the contexts are what `DiagCtx` needs to discharge `Fresh` of C05 / C08 for parser output).
The single hypothesis about actions (`ActionsSafe`) is proved in `Props/ActionsSafe.lean`.
-/

namespace Aidl.Props.LrInv
open Aidl Aidl.Lr Aidl.Actions Aidl.Lexer Aidl.Javadoc
open Aidl.Props.LrSafe Aidl.Props.JavadocTotal Aidl.Props.LexerBounds Aidl.Props.LrDriver

/-- byte offset `n` is a character boundary of the text `I` -/
def Bd (I : List Char) (n : Nat) : Prop := ∃ pre post, I = pre ++ post ∧ utf8Len pre = n

theorem Bd.zero (I : List Char) : Bd I 0 := ⟨[], I, rfl, rfl⟩

def GoodTok (I : List Char) (t : Token) : Prop := Bd I t.start ∧ Bd I t.stop

def GoodErr (I : List Char) : ParseErr → Prop
  | .invalidToken l => Bd I l
  | .unrecognizedEof l _ => Bd I l
  | .unrecognizedToken t _ => GoodTok I t
  | .extraToken t => GoodTok I t

def PosGood (env : Env) (I : List Char) (p : Pos) : Prop := Bd I p.off ∧ env.lineCol p.off = some (p.line, p.col)
def RangeGood (env : Env) (I : List Char) (r : Range) : Prop := PosGood env I r.start ∧ PosGood env I r.stop

def PosLc (env : Env) (p : Pos) : Prop := env.lineCol p.off = some (p.line, p.col)
def RangeLc (env : Env) (r : Range) : Prop := PosLc env r.start ∧ PosLc env r.stop
/-- the context messages the syntax stage writes (`from_parse_error`; `none`: the transact-code Error of
    the `Method` action) -/
def synCtx (c : Option String) : Bool :=
  c == none || c == some "invalid token" || c == some "unrecognized EOF" || c == some "unrecognized token"
    || c == some "extra token"
def DiagLc (env : Env) (d : Diag) : Prop :=
  RangeLc env d.range ∧ (∀ ri ∈ d.related, RangeLc env ri.range) ∧ synCtx d.context = true
def DiagsLc (env : Env) (ds : List Diag) : Prop := ∀ d ∈ ds, DiagLc env d

theorem RangeGood.lc {env : Env} {I : List Char} {r : Range} (h : RangeGood env I r) : RangeLc env r := ⟨h.1.2, h.2.2⟩

mutual
def TyGood (env : Env) (I : List Char) : Ty → Prop
  | .mk _ _ g s f => RangeGood env I s ∧ RangeGood env I f ∧ TysGood env I g
def TysGood (env : Env) (I : List Char) : List Ty → Prop
  | [] => True
  | t :: ts => TyGood env I t ∧ TysGood env I ts
end

def DirGood (env : Env) (I : List Char) : Direction → Prop
  | .in_ r => RangeGood env I r
  | .out r => RangeGood env I r
  | .inout r => RangeGood env I r
  | .unspecified => True

def ArgGood (env : Env) (I : List Char) (a : Arg) : Prop :=
  RangeGood env I a.sym ∧ RangeGood env I a.full ∧ DirGood env I a.direction ∧ TyGood env I a.argType
def MethodGood (env : Env) (I : List Char) (m : Method) : Prop :=
  RangeGood env I m.sym ∧ RangeGood env I m.full ∧ RangeGood env I m.transactCodeRange ∧ RangeGood env I m.onewayRange
    ∧ TyGood env I m.returnType ∧ ∀ a ∈ m.args, ArgGood env I a
def ConstGood (env : Env) (I : List Char) (c : Const) : Prop :=
  RangeGood env I c.sym ∧ RangeGood env I c.full ∧ TyGood env I c.constType
def FieldGood (env : Env) (I : List Char) (f : Field) : Prop :=
  RangeGood env I f.sym ∧ RangeGood env I f.full ∧ TyGood env I f.fieldType
def EnumElGood (env : Env) (I : List Char) (e : EnumElement) : Prop := RangeGood env I e.sym ∧ RangeGood env I e.full
def IelGood (env : Env) (I : List Char) : InterfaceElement → Prop
  | .const c => ConstGood env I c
  | .method m => MethodGood env I m
def PelGood (env : Env) (I : List Char) : ParcelableElement → Prop
  | .const c => ConstGood env I c
  | .field f => FieldGood env I f
def IfaceGood (env : Env) (I : List Char) (i : Interface) : Prop :=
  RangeGood env I i.sym ∧ RangeGood env I i.full ∧ ∀ e ∈ i.elements, IelGood env I e
def ParcGood (env : Env) (I : List Char) (p : Parcelable) : Prop :=
  RangeGood env I p.sym ∧ RangeGood env I p.full ∧ ∀ e ∈ p.elements, PelGood env I e
def EnmGood (env : Env) (I : List Char) (e : Enum) : Prop :=
  RangeGood env I e.sym ∧ RangeGood env I e.full ∧ ∀ x ∈ e.elements, EnumElGood env I x
def ItemGood (env : Env) (I : List Char) : Item → Prop
  | .interface i => IfaceGood env I i
  | .parcelable p => ParcGood env I p
  | .enum e => EnmGood env I e
def PackageGood (env : Env) (I : List Char) (p : Package) : Prop := RangeGood env I p.sym ∧ RangeGood env I p.full
def ImportGood (env : Env) (I : List Char) (i : Import) : Prop := RangeGood env I i.sym ∧ RangeGood env I i.full
def AidlGood (env : Env) (I : List Char) (a : AidlFile) : Prop :=
  PackageGood env I a.package ∧ (∀ i ∈ a.imports, ImportGood env I i) ∧ (∀ i ∈ a.declaredParcelables, ImportGood env I i)
    ∧ ItemGood env I a.item

mutual
def GoodVal (env : Env) (I : List Char) : Val → Prop
  | .loc n => Bd I n
  | .some_ v => GoodVal env I v
  | .list l => GoodVals env I l
  | .pair a b => GoodVal env I a ∧ GoodVal env I b
  | .recovery e d => GoodErr I e ∧ ∀ t ∈ d, GoodTok I t
  | .package p => PackageGood env I p
  | .import_ i => ImportGood env I i
  | .ty t => TyGood env I t
  | .dir d => DirGood env I d
  | .arg a => ArgGood env I a
  | .method m => MethodGood env I m
  | .const c => ConstGood env I c
  | .field f => FieldGood env I f
  | .enumEl e => EnumElGood env I e
  | .iel e => IelGood env I e
  | .pel e => PelGood env I e
  | .iface i => IfaceGood env I i
  | .parc p => ParcGood env I p
  | .enm e => EnmGood env I e
  | .item i => ItemGood env I i
  | .aidl a => AidlGood env I a
  | _ => True
def GoodVals (env : Env) (I : List Char) : List Val → Prop
  | [] => True
  | v :: vs => GoodVal env I v ∧ GoodVals env I vs
end

def GoodArg (env : Env) (I : List Char) : ArgV → Prop
  | .triple a v b => Bd I a ∧ GoodVal env I v ∧ Bd I b
  | .locRef n => Bd I n

def GoodArgs (env : Env) (I : List Char) (args : List ArgV) : Prop := ∀ a ∈ args, GoodArg env I a

def GoodSym (env : Env) (I : List Char) (x : Sym) : Prop := Bd I x.start ∧ Bd I x.stop ∧ GoodVal env I x.val

structure GoodSt (env : Env) (I : List Char) (s : St) : Prop where
  lex : ∃ pre, I = pre ++ s.input ∧ s.pos = utf8Len pre
  last : Bd I s.last
  syms : ∀ x ∈ s.syms, GoodSym env I x
  diags : DiagsLc env s.diags

def GoodOutcome (env : Env) (I : List Char) : Outcome → Prop
  | .accept v => GoodVal env I v
  | .error e => GoodErr I e
  | .panic _ => False
  | .actionPanic p => p.kind ≠ .bounds
  | _ => True

def GoodOS (env : Env) (I : List Char) (s : St) (o : Outcome) : Prop := GoodOutcome env I o ∧ DiagsLc env s.diags

structure EnvOk (env : Env) (I : List Char) : Prop where
  text : env.text = I
  lineCol : ∀ n, Bd I n → (env.lineCol n).isSome = true

def ActionsSafe (T : Tables) (env : Env) (I : List Char) : Prop :=
  ∀ (id : Nat) (args : List ArgV) (ds : List Diag), (∀ a ∈ args, GoodArg env I a) → DiagsLc env ds →
    match (evalAction T.actions 16 id args).run env |>.run ds with
    | .ok (v, ds') => GoodVal env I v ∧ DiagsLc env ds'
    | .error p => p.kind ≠ .bounds

variable (T : Tables) (C : Cert) (env : Env) (I : List Char)

structure Inv (s : St) : Prop where
  chain : Chain C s.states s.syms
  good : GoodSt env I s

theorem nextToken_inv (s : St) (h : Inv C env I s) :
    Holds (fun s' la => Inv C env I s' ∧ ∀ x ∈ la, GoodTok I x.1) (GoodOS env I) (ofNext (nextToken T s)) := by
  obtain ⟨pre, hI, hpos⟩ := h.good.lex
  unfold nextToken
  have hnx := next_ok T.lex (s.input.length + 1) s.input s.pos
  cases hr : Lexer.next T.lex (s.input.length + 1) s.input s.pos with
  | eof => exact And.intro h nofun
  | invalid l =>
    rw [hr] at hnx
    obtain ⟨a, b, h1, h2⟩ := hnx
    exact And.intro ⟨pre ++ a, b, by rw [hI, h1]; simp, by rw [utf8Len_append, h2, hpos]⟩ h.good.diags
  | token t rest =>
    rw [hr] at hnx
    dsimp only
    obtain ⟨sk, tok, h1, h2, h3, _⟩ := hnx
    have hstart : Bd I t.start := ⟨pre ++ sk, tok ++ rest, by rw [hI, h1]; simp, by rw [utf8Len_append, h2, hpos]⟩
    have hI' : I = (pre ++ sk ++ tok) ++ rest := by rw [hI, h1]; simp
    have hlen : utf8Len (pre ++ sk ++ tok) = t.stop := by rw [utf8Len_append, utf8Len_append, h3, h2, hpos]
    have hstop : Bd I t.stop := ⟨_, rest, hI', hlen⟩
    have hinv : Inv C env I { s with input := rest, pos := t.stop, last := t.stop } :=
      { chain := h.chain
        good := { lex := ⟨_, hI', hlen.symm⟩
                  last := hstop
                  syms := h.good.syms
                  diags := h.good.diags } }
    cases hc : T.tokToCol.lookup t.index with
    | some col => exact And.intro hinv fun x hx => by cases hx; exact ⟨hstart, hstop⟩
    | none => exact And.intro ⟨hstart, hstop⟩ h.good.diags

theorem bd_reduceStart (popped rest : List Sym) (la : Option Nat)
    (hp : ∀ x ∈ popped, GoodSym env I x) (hr : ∀ x ∈ rest, GoodSym env I x) (hla : ∀ n, la = some n → Bd I n) :
    Bd I (reduceStart popped rest la) := by
  unfold reduceStart
  cases hh : popped.head? with
  | some f => exact (hp f (List.mem_of_mem_head? hh)).1
  | none =>
    dsimp only
    cases la with
    | some n => exact hla n rfl
    | none =>
      simp only [Option.orElse]
      cases hr' : rest.head? with
      | some y => exact (hr y (List.mem_of_mem_head? hr')).2.1
      | none => exact Bd.zero I

theorem bd_reduceStop (popped : List Sym) (start : Nat) (hp : ∀ x ∈ popped, GoodSym env I x) (hs : Bd I start) :
    Bd I (reduceStop popped start) := by
  unfold reduceStop
  cases hh : popped.getLast? with
  | some l => exact (hp l (List.mem_of_getLast? hh)).2.1
  | none => exact hs

theorem good_reduceArgs (popped : List Sym) (start stop : Nat) (hp : ∀ x ∈ popped, GoodSym env I x)
    (hs : Bd I start) (he : Bd I stop) : GoodArgs env I (reduceArgs popped start stop) := by
  unfold reduceArgs
  split
  · exact List.forall_mem_cons.mpr ⟨hs, List.forall_mem_singleton.mpr he⟩
  · intro a ha
    obtain ⟨x, hx, rfl⟩ := List.mem_map.mp ha
    have := hp x hx
    exact ⟨this.1, this.2.2, this.2.1⟩

theorem reduce_inv (F : CertFacts T C) (hA : ActionsSafe T env I) (s : St) (p : Nat) (la : Option Nat)
    (h : Inv C env I s) (hred : C.redOK T (topState s) p = true) (hla : ∀ n, la = some n → Bd I n) :
    Holds (fun s' _ => Inv C env I s') (GoodOS env I) (ofRed (reduce T env s p la)) := by
  obtain ⟨prod, _, _, hr⟩ := reduce_chain T C F env s p la h.chain hred
  have hpop : ∀ x ∈ popped s prod, GoodSym env I x := fun x hx =>
    h.good.syms x (List.mem_of_mem_take (List.mem_reverse.mp hx))
  have hrest : ∀ x ∈ s.syms.drop prod.rhs.length, GoodSym env I x := fun x hx =>
    h.good.syms x (List.mem_of_mem_drop hx)
  have hstart := bd_reduceStart env I _ _ la hpop hrest hla
  have hstop := bd_reduceStop env I _ _ hpop hstart
  have hact : match runAction T env s prod la with
      | .ok (v, ds') => GoodVal env I v ∧ DiagsLc env ds'
      | .error p => p.kind ≠ .bounds :=
    hA prod.action _ s.diags (good_reduceArgs env I _ _ _ hpop hstart hstop) h.good.diags
  generalize reduce T env s p la = res at hr ⊢
  cases hr with
  | stop he =>
    rw [he] at hact
    exact And.intro hact h.good.diags
  | accept he _ _ =>
    rw [he] at hact
    exact hact
  | goOn g he _ _ hc' =>
    rw [he] at hact
    exact Inv.mk hc' ⟨h.good.lex, h.good.last, List.forall_mem_cons.mpr ⟨⟨hstart, hstop, hact.1⟩, hrest⟩, hact.2⟩

theorem bd_recoverStart (s : St) (top : Nat) (dropped : List Token)
    (hs : ∀ x ∈ s.syms, GoodSym env I x) (hd : ∀ t ∈ dropped, GoodTok I t) : Bd I (recoverStart s top dropped) := by
  unfold recoverStart
  dsimp only
  cases h1 : s.syms.reverse[top]? with
  | some sym => exact (hs sym (List.mem_reverse.mp (List.mem_of_getElem? h1))).1
  | none =>
    dsimp only
    cases h2 : dropped.head? with
    | some t => exact (hd t (List.mem_of_mem_head? h2)).1
    | none =>
      dsimp only
      split
      · cases h3 : s.syms.reverse[top - 1]? with
        | some sym => exact (hs sym (List.mem_reverse.mp (List.mem_of_getElem? h3))).2.1
        | none => exact Bd.zero I
      · exact Bd.zero I

theorem bd_recoverStop (statesLen : Nat) (s : St) (top : Nat) (la : Option Token) (dropped : List Token) (start : Nat)
    (hs : ∀ x ∈ s.syms, GoodSym env I x) (hd : ∀ t ∈ dropped, GoodTok I t) (hla : ∀ t, la = some t → GoodTok I t)
    (hst : Bd I start) : Bd I (recoverStop statesLen s top la dropped start) := by
  unfold recoverStop
  cases h1 : dropped.getLast? with
  | some t => exact (hd t (List.mem_of_getLast? h1)).2
  | none =>
    dsimp only
    split
    · cases h2 : s.syms.head? with
      | some sym => exact (hs sym (List.mem_of_mem_head? h2)).2.1
      | none => exact Bd.zero I
    · cases la with
      | some l => exact (hla l rfl).1
      | none => exact hst

theorem inv_push (s s' : St) (x : Sym) (syms : List Sym)
    (hsy : s'.syms = x :: syms) (hc : Chain C s'.states s'.syms)
    (hlex : s'.input = s.input ∧ s'.pos = s.pos ∧ s'.last = s.last ∧ s'.diags = s.diags)
    (hx : GoodSym env I x) (hs : ∀ y ∈ syms, GoodSym env I y) (hg : GoodSt env I s) :
    Inv C env I s' :=
  { chain := hc
    good := { lex := by rw [hlex.1, hlex.2.1]; exact hg.lex
              last := by rw [hlex.2.2.1]; exact hg.last
              diags := by rw [hlex.2.2.2]; exact hg.diags
              syms := hsy ▸ List.forall_mem_cons.mpr ⟨hx, hs⟩ } }

theorem good_unrecognized (s : St) (la : Option Token) (h : GoodSt env I s) (hla : ∀ t, la = some t → GoodTok I t) :
    GoodErr I (unrecognized T s la) := by
  unfold unrecognized
  cases la with
  | some t => exact hla t rfl
  | none => exact h.last

theorem good_laTok {la : La} (h : ∀ x ∈ la, GoodTok I x.1) : ∀ t, la.map (·.1) = some t → GoodTok I t := by
  intro t ht
  obtain ⟨x, hx, rfl⟩ := Option.map_eq_some_iff.mp ht
  exact h x hx

theorem inv_invariant (F : CertFacts T C) (hA : ActionsSafe T env I) :
    Invariant T env
      (fun m s => Inv C env I s ∧ Parts (fun l _ => GoodTok I l) (fun e d => GoodErr I e ∧ ∀ t ∈ d, GoodTok I t) m)
      (GoodOS env I) := by
  refine .of_parts ?fuel ?lex ?shift ?reduce ?extra ?enter ?drop ?giveUp ?push
  case fuel => exact fun _ h => ⟨trivial, h.good.diags⟩
  case lex => exact nextToken_inv T C env I
  case shift =>
    intro s l c target h hl hs
    exact inv_push C env I s _ _ s.syms rfl (chain_shifted T C F h.chain hs l) ⟨rfl, rfl, rfl, rfl⟩ ⟨hl.1, hl.2, trivial⟩
      h.good.syms h.good
  case reduce =>
    intro s la r h hl hr
    have hla : ∀ n, la.map (·.1.start) = some n → Bd I n := by
      intro n hn
      obtain ⟨x, hx, rfl⟩ := Option.map_eq_some_iff.mp hn
      exact (hl x hx).1
    exact reduce_inv T C env I F hA s r _ h (redOK_of_fires T C F hr) hla
  case extra => exact fun _ _ _ _ hl h => ⟨hl, h.2⟩
  case enter => exact fun s la h hl => ⟨good_unrecognized T env I s _ h.good (good_laTok I hl), nofun⟩
  case drop =>
    exact fun e d l c hr hl => ⟨hr.1, List.forall_mem_append.mpr ⟨hr.2, List.forall_mem_singleton.mpr hl⟩⟩
  case giveUp => exact fun _ _ _ h hr => ⟨hr.1, h.good.diags⟩
  case push =>
    intro s e d la top errState h hr hl htop hsh
    obtain ⟨hsyms, hchain⟩ := chain_pushed T C F h.chain htop hsh e (la.map (·.1)) d
    have hstart := bd_recoverStart env I s top d h.good.syms hr.2
    have hstop := bd_recoverStop env I s.states.length s top _ d _ h.good.syms hr.2 (good_laTok I hl) hstart
    refine inv_push C env I s _ _ _ rfl hchain ⟨rfl, rfl, rfl, rfl⟩ ⟨hstart, hstop, hr⟩ ?_ h.good
    intro x hx
    rw [hsyms] at hx
    exact h.good.syms x (List.mem_of_mem_drop hx)

theorem parseLoop_inv (F : CertFacts T C) (hA : ActionsSafe T env I) (fuel : Nat) (s : St) (h : Inv C env I s) :
    GoodOS env I (parseLoop T env s fuel).1 (parseLoop T env s fuel).2 :=
  parseLoop_parts (inv_invariant T C env I F hA) fuel s h

theorem inv_init (text : List Char) : Inv C env text { input := text } :=
  { chain := Chain.base
    good := { lex := ⟨[], rfl, rfl⟩, last := Bd.zero text, syms := (by intro x hx; cases hx),
              diags := (by intro d hd; cases hd) } }

/-- **For every input**: the run of the parser model never ends in a panic of the LR driver
    (those the model makes explicit: symbol mismatch, stack underflow, the `unwrap` of `recoverPush`; where
    Model/Lr.lean reads a stack with a default — `topState`, `accepts`, `recoverStart` / `recoverStop` — there is no
    outcome to exclude), never in a `bounds` panic of an action
    (`Range::new` off a boundary, a slice of `javadoc.rs`), and a parse error it returns lies on
    character boundaries of the input — whatever the fuel. -/
theorem parse_outcome_good (F : CertFacts T C) (text : List Char) (hA : ActionsSafe T env text) (fuel : Nat) :
    GoodOutcome env text (parseLoop T env { input := text } fuel).2 :=
  (parseLoop_inv T C env text F hA fuel _ (inv_init C env text)).1

/-- … and every diagnostic of the final state holds positions the lookup accepts, with their line and column -/
theorem parse_diags_good (F : CertFacts T C) (text : List Char) (hA : ActionsSafe T env text) (fuel : Nat) :
    DiagsLc env (parseLoop T env { input := text } fuel).1.diags :=
  (parseLoop_inv T C env text F hA fuel _ (inv_init C env text)).2

end Aidl.Props.LrInv
