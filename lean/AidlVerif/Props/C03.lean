import AidlVerif.Props.ParseLevel
import AidlVerif.Lemmas.Validate
import AidlVerif.Props.LrDriver

/-!
# C03: syntax verdicts agree with the grammar; failure is never silent. Here: the result handling and validation

Proved about the model, besides the theorems of this file: every error-recovery reduction pushes an Error
(`PL.recovery_pushes_error`); no keyword / reserved word written alone is an IDENT token for the regenerated lexer table
(`Parser.keywords_lex_as_keywords`); `Parser.userActions_pinned`, `Parser.tables_in_range`.

Proved elsewhere, for every text: "well-formed ⇒ accepted" (`C03Complete.wellformed_accepted`), its
converse (`C03Complete.clean_tree_derives`, `derivable_or_error`) and never-silent for whole runs,
the `accept`-with-`None` branch included (`ParseTyped.never_silent`).
-/

namespace Aidl.Props.C03
open Aidl Aidl.Actions Aidl.Lr Aidl.Props.PL

/-- The error branch is never silent: when the driver stops with a parse error, the stored
    result has no tree and ends with an Error diagnostic covering the error's span. -/
theorem error_branch_not_silent (env : Env) (id : String) (s : St) (e : ParseErr) (r : FileResult)
    (h : Lr.finishE env id s (.error e) = .ok r) :
    r.ast = none ∧ ∃ d, r.diags = s.diags ++ [d] ∧ d.kind = .error
      ∧ d.range.start.off = (errSpan e).1 ∧ d.range.stop.off = (errSpan e).2 := by
  cases LrDriver.finishE_finished h with
  | err _ d ds hr =>
    have hp := fromParseError_ok env s.diags e d ds hr
    exact ⟨rfl, d, by rw [hp.1], hp.2.1, hp.2.2.1, hp.2.2.2⟩

/-- Validation never drops a syntax diagnostic: every diagnostic of the syntax stage occurs in
    the validated result at least as often, unchanged (kind included), for any file and hash order. -/
theorem validate_keeps_syntax (ho : HashOrder) (defined : Defined) (fr out : FileResult)
    (h : validateFile ho defined fr = .ok out) (d : Diag) : fr.diags.count d ≤ out.diags.count d := by
  rcases validateFile_eq_ok h with ⟨_, rfl⟩ | ⟨ast, g, _, hg, rfl⟩
  · exact Nat.le_refl _
  · show _ ≤ (sortDiags g.all).count d
    rw [(sortDiags_perm g.all).count_eq]
    unfold Groups.all
    rw [(validated hg).syn_eq]
    simp only [List.count_append]
    omega

theorem no_tree_stays_no_tree (ho : HashOrder) (defined : Defined) (fr : FileResult) (h : fr.ast = none) :
    validateFile ho defined fr = .ok fr := by
  unfold validateFile; simp [h]

end Aidl.Props.C03
