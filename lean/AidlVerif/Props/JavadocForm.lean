import AidlVerif.Props.JavadocSpec

/-!
# C18 — the closed form of `parse_javadoc` on structured bodies

A body laid out the usual way — every line introduced by ` * `, paragraphs separated by one ` *` line, LF or CRLF line
ends — is normalised to: the lines of a paragraph joined by single blanks, a tag clause on a line of its own, the
paragraphs joined by newlines, every line verbatim. Proved of `parseJavadocSpec`, hence, by `parseJavadoc_eq_spec`, of the
model of `parse_javadoc`.

The argument. A leftmost search passes over a stretch of text in which the anchored matcher fails at every position
(`FailsIn`) and stops at the first hit: on `pre ++ w ++ post` that is one step of `split` or `replace_all`, with no byte
arithmetic left (`scan_found`, `splitWith_step`, `replaceWith_step`). A line begins and ends with characters that are no
decoration and holds no line break, while decoration is all that the three patterns' classes are made of: so no separator
begins inside a line, and each pass is one induction over the paragraphs or lines with one hit per separator
(`split_body`, `replace_par`, `at_pass`).
-/

namespace Aidl.Props.JavadocForm
open Aidl.Regex Aidl.Javadoc Aidl.Props.JavadocTotal
  Aidl.Props.JavadocWords Aidl.Props.JavadocSpec

theorem exists_concat {α} (l : List α) (h : l ≠ []) : ∃ t c, l = t ++ [c] :=
  ⟨_, _, (List.dropLast_concat_getLast h).symm⟩

theorem span_stop {α} (q : α → Bool) (b : α) (r : List α) (hb : q b = false) : ∀ a : List α,
    (a ++ b :: r).takeWhile q = a.takeWhile q ∧ (a ++ b :: r).dropWhile q = a.dropWhile q ++ b :: r
  | [] => by simp [hb]
  | x :: a => by
    by_cases hx : q x = true
    · simp [hx, span_stop q b r hb a]
    · simp [hx]

def FailsIn (at_ : List Char → Nat → Option Nat) (pre rest : List Char) : Prop :=
  ∀ p1 p2 q, pre = p1 ++ p2 → p2 ≠ [] → at_ (p2 ++ rest) q = none

theorem FailsIn_nil (at_ : List Char → Nat → Option Nat) (rest : List Char) : FailsIn at_ [] rest := by
  intro p1 p2 q h hne
  exact absurd (List.append_eq_nil_iff.mp h.symm).2 hne

theorem FailsIn_cons (at_ : List Char → Nat → Option Nat) (c : Char) (a rest : List Char) :
    FailsIn at_ (c :: a) rest ↔ (∀ q, at_ (c :: (a ++ rest)) q = none) ∧ FailsIn at_ a rest := by
  constructor
  · intro h
    exact ⟨fun q => h [] (c :: a) q rfl (by simp), fun p1 p2 q hp hne => h (c :: p1) p2 q (by rw [hp]; rfl) hne⟩
  · rintro ⟨h0, h⟩ p1 p2 q hp hne
    cases p1 with
    | nil =>
      cases hp
      exact h0 q
    | cons x p1 =>
      injection hp with _ hp
      exact h p1 p2 q hp hne

theorem FailsIn_append (at_ : List Char → Nat → Option Nat) (a b rest : List Char)
    (ha : FailsIn at_ a (b ++ rest)) (hb : FailsIn at_ b rest) : FailsIn at_ (a ++ b) rest := by
  induction a with
  | nil => exact hb
  | cons c a ih =>
    obtain ⟨h0, h'⟩ := (FailsIn_cons at_ c a (b ++ rest)).1 ha
    refine (FailsIn_cons at_ c (a ++ b) rest).2 ⟨fun q => ?_, ih h'⟩
    rw [List.append_assoc]
    exact h0 q

theorem FailsIn_of_heads (at_ : List Char → Nat → Option Nat) (a rest : List Char)
    (h : ∀ c ∈ a, ∀ t q, at_ (c :: t) q = none) : FailsIn at_ a rest := by
  induction a with
  | nil => exact FailsIn_nil at_ rest
  | cons c a ih =>
    exact (FailsIn_cons at_ c a rest).2 ⟨fun q => h c (by simp) _ q, ih fun d hd => h d (by simp [hd])⟩

theorem failsIn_lacks (at_ : List Char → Nat → Option Nat) (x : Char) (hneeds : ∀ s q, x ∉ s → at_ s q = none)
    (s : List Char) (h : x ∉ s) : FailsIn at_ s [] := by
  intro p1 p2 q hsplit _
  rw [List.append_nil]
  exact hneeds p2 q (fun hm => h (by rw [hsplit]; simp [hm]))

theorem scanWith_skip (at_ : List Char → Nat → Option Nat) : ∀ (pre rest : List Char) (p : Nat),
    FailsIn at_ pre rest → scanWith at_ (pre ++ rest) p = scanWith at_ rest (p + utf8Len pre)
  | [], rest, p, _ => by simp [utf8Len_nil]
  | c :: pre, rest, p, h => by
    obtain ⟨h0, h'⟩ := (FailsIn_cons at_ c pre rest).1 h
    rw [List.cons_append, scanWith, h0 p]
    simp only
    rw [scanWith_skip at_ pre rest _ h', utf8Len_cons, Nat.add_assoc]

theorem scan_found (at_ : List Char → Nat → Option Nat) (pre w post : List Char) (hw : w ≠ [])
    (hpre : FailsIn at_ pre (w ++ post)) (hhit : ∀ q, at_ (w ++ post) q = some (q + utf8Len w)) :
    scanWith at_ (pre ++ w ++ post) 0 = some (utf8Len pre, utf8Len pre + utf8Len w) := by
  rw [List.append_assoc, scanWith_skip at_ pre (w ++ post) 0 hpre, Nat.zero_add]
  obtain ⟨c, t, rfl⟩ := List.exists_cons_of_ne_nil hw
  rw [List.cons_append, scanWith, ← List.cons_append, hhit]

theorem scanWith_none (at_ : List Char → Nat → Option Nat) (s : List Char) (h : FailsIn at_ s []) (hnil : ∀ q, at_ [] q = none) :
    scanWith at_ s 0 = none := by
  have := scanWith_skip at_ s [] 0 h
  rw [List.append_nil] at this
  rw [this, scanWith, hnil]
  rfl

theorem scanWith_lacks (at_ : List Char → Nat → Option Nat) (x : Char) (hneeds : ∀ s q, x ∉ s → at_ s q = none)
    (s : List Char) (h : x ∉ s) : scanWith at_ s 0 = none :=
  scanWith_none at_ s (failsIn_lacks at_ x hneeds s h) (fun q => hneeds [] q (by simp))

def Equivariant (at_ : List Char → Nat → Option Nat) : Prop :=
  ∀ s p d, at_ s (p + d) = (at_ s p).map (· + d)

theorem scanWith_shift (at_ : List Char → Nat → Option Nat) (he : Equivariant at_) : ∀ (s : List Char) (p d : Nat),
    scanWith at_ s (p + d) = (scanWith at_ s p).map (fun ab => (ab.1 + d, ab.2 + d)) := by
  intro s
  induction s with
  | nil =>
    intro p d
    simp only [scanWith, he [] p d]
    cases at_ [] p <;> rfl
  | cons c s ih =>
    intro p d
    simp only [scanWith, he (c :: s) p d]
    cases at_ (c :: s) p with
    | some e => rfl
    | none =>
      simp only [Option.map_none]
      rw [show p + d + c.utf8Size = (p + c.utf8Size) + d by omega, ih]

theorem splitWith_step (find : List Char → Option (Nat × Nat)) (n : Nat) (pre w post : List Char) (hw : w ≠ [])
    (h : find (pre ++ w ++ post) = some (utf8Len pre, utf8Len pre + utf8Len w)) :
    splitWith find (n + 1) (pre ++ w ++ post) = pre :: splitWith find n post := by
  have := utf8Len_pos hw
  rw [splitWith, h]
  simp only
  rw [if_neg (by omega), (slices pre w post).1, (slices pre w post).2.2]

theorem replaceWith_step (find : List Char → Option (Nat × Nat)) (rep : List Char → List Char) (n : Nat)
    (pre w post : List Char) (hw : w ≠ [])
    (h : find (pre ++ w ++ post) = some (utf8Len pre, utf8Len pre + utf8Len w)) :
    replaceWith find rep (n + 1) (pre ++ w ++ post) = pre ++ rep w ++ replaceWith find rep n post := by
  have := utf8Len_pos hw
  rw [replaceWith, h]
  simp only
  rw [if_neg (by omega), (slices pre w post).1, (slices pre w post).2.1, (slices pre w post).2.2]

theorem splitWith_none (find : List Char → Option (Nat × Nat)) (n : Nat) (s : List Char) (h : find s = none) :
    splitWith find n s = [s] := by
  cases n with
  | zero => rfl
  | succ n => rw [splitWith, h]

theorem replaceWith_none (find : List Char → Option (Nat × Nat)) (rep : List Char → List Char) (n : Nat) (s : List Char)
    (h : find s = none) : replaceWith find rep n s = s := by
  cases n with
  | zero => rfl
  | succ n => rw [replaceWith, h]

theorem replaceWith_skip (at_ : List Char → Nat → Option Nat) (he : Equivariant at_) (rep : List Char → List Char)
    (n : Nat) (pre rest : List Char) (hf : FailsIn at_ pre rest) :
    replaceWith (fun s => scanWith at_ s 0) rep n (pre ++ rest) = pre ++ replaceWith (fun s => scanWith at_ s 0) rep n rest := by
  cases n with
  | zero => rfl
  | succ n =>
    rw [replaceWith, replaceWith]
    rw [scanWith_skip at_ pre rest 0 hf, scanWith_shift at_ he rest 0 (utf8Len pre)]
    cases scanWith at_ rest 0 with
    | none => rfl
    | some ab =>
      obtain ⟨a, b⟩ := ab
      simp only [Option.map_some]
      by_cases hab : b = a
      · subst hab; simp
      · rw [if_neg (by omega), if_neg hab]
        rw [show a + utf8Len pre = utf8Len pre + a by omega, show b + utf8Len pre = utf8Len pre + b by omega,
          takeBytes_append_len, dropBytes_append_len, dropBytes_append_len,
          show utf8Len pre + b - (utf8Len pre + a) = b - a by omega]
        simp [List.append_assoc]

def EolOk (eol : List Char) : Prop := eol = ['\n'] ∨ eol = ['\r', '\n']

structure GoodLine (l : List Char) : Prop where
  ne : l ≠ []
  chars : ∀ c ∈ l, c ≠ '\n' ∧ c ≠ '\r'
  first : ∀ c t, l = c :: t → isTrimChar c = false
  last : ∀ c t, l = t ++ [c] → isTrimChar c = false

def lsep (eol : List Char) : List Char := eol ++ [' ', '*', ' ']
def pbreak (eol : List Char) : List Char := eol ++ [' ', '*'] ++ eol
def renderPar (eol : List Char) (ls : List (List Char)) : List Char := intercalate (lsep eol) ls

/-- what follows a paragraph: the separator line and the next paragraph, or the closing line -/
def bodyTail (eol : List Char) : List (List (List Char)) → List Char
  | [] => eol ++ [' ']
  | p :: ps => pbreak eol ++ [' ', '*', ' '] ++ renderPar eol p ++ bodyTail eol ps

def renderBody (eol : List Char) : List (List (List Char)) → List Char
  | [] => []
  | p :: ps => lsep eol ++ renderPar eol p ++ bodyTail eol ps

def LineOk (l : List Char) : Prop :=
  (GoodLine l ∧ '@' ∉ l) ∨ (∃ t, l = '@' :: t ∧ GoodLine t ∧ '@' ∉ t)

def isTag (l : List Char) : Bool := l.head? == some '@'

def tailAt : List (List Char) → List Char
  | [] => []
  | b :: ls => (if isTag b then ['\n'] else [' ']) ++ b ++ tailAt ls

def atJoin : List (List Char) → List Char
  | [] => []
  | a :: ls => a ++ tailAt ls

theorem intercalate_cons_cons (sep a b : List Char) (ls : List (List Char)) :
    intercalate sep (a :: b :: ls) = a ++ sep ++ intercalate sep (b :: ls) := rfl

theorem renderPar_cons2 (eol a b : List Char) (ls : List (List Char)) :
    renderPar eol (a :: b :: ls) = a ++ lsep eol ++ renderPar eol (b :: ls) := rfl

theorem renderPar_single (eol a : List Char) : renderPar eol [a] = a := rfl

theorem nlPrefix_eol (eol post : List Char) (he : EolOk eol) : nlPrefix (eol ++ post) = some (post, utf8Len eol) := by
  rcases he with rfl | rfl <;> rfl

theorem lsep_ne (eol : List Char) : lsep eol ≠ [] := by simp [lsep]

theorem pbreak_ne (eol : List Char) : pbreak eol ≠ [] := by simp [pbreak]

theorem goodLine_of_decide (l : List Char) (h1 : l ≠ []) (h2 : ∀ c ∈ l, c ≠ '\n' ∧ c ≠ '\r')
    (h3 : (l.head?.map isTrimChar) = some false) (h4 : (l.getLast?.map isTrimChar) = some false) : GoodLine l := by
  refine ⟨h1, h2, ?_, ?_⟩
  · intro c t h; subst h; simpa using h3
  · intro c t h; subst h; simpa using h4

theorem not_trim (c : Char) (h : isTrimChar c = false) :
    isC3 c = false ∧ isNoise c = false ∧ isWs c = false ∧ c ≠ '\r' ∧ c ≠ '\n' := by
  have hcls : ∀ rs, (∀ r ∈ rs, r.1 = r.2 ∧ (r.1 = 32 ∨ r.1 = 9 ∨ r.1 = 13 ∨ r.1 = 10 ∨ r.1 = 42)) → inCls rs c = false := by
    intro rs hrs
    refine Bool.eq_false_iff.mpr fun hc => ?_
    have := trim_of_inCls rs hrs c hc
    rw [IsTrim, h] at this
    cases this
  refine ⟨hcls cls3 (by decide), hcls cls5 (by decide), hcls ws4 (by decide), ?_, ?_⟩
  · rintro rfl
    revert h
    decide
  · rintro rfl
    revert h
    decide

theorem isC3_of_blank (c : Char) (h : c = ' ' ∨ c = '*' ∨ c = '\t') : isC3 c = true := by
  rcases h with rfl | rfl | rfl <;> decide

theorem blanks3 : ∀ c ∈ [' ', '*', ' '], isC3 c = true := by decide

theorem blanks_trim : ∀ x ∈ [' ', '*', ' '], isTrimChar x = true := by decide

theorem lsep_trim (eol : List Char) (he : EolOk eol) : ∀ x ∈ lsep eol, isTrimChar x = true := by
  rcases he with rfl | rfl <;> decide

theorem close_trim (eol : List Char) (he : EolOk eol) : ∀ x ∈ eol ++ [' '], isTrimChar x = true := by
  rcases he with rfl | rfl <;> decide

def Begins (s : List Char) : Prop := ∃ c t, s = c :: t ∧ isTrimChar c = false

theorem Begins.append {a : List Char} (h : Begins a) (r : List Char) : Begins (a ++ r) := by
  obtain ⟨c, t, rfl, hc⟩ := h
  exact ⟨c, t ++ r, rfl, hc⟩

def Trimmed (s : List Char) : Prop := Begins s ∧ ∃ t c, s = t ++ [c] ∧ isTrimChar c = false

theorem Trimmed.append {a b : List Char} (ha : Trimmed a) (hb : Trimmed b) (m : List Char) : Trimmed (a ++ m ++ b) := by
  obtain ⟨⟨c, t, rfl, hc⟩, _⟩ := ha
  obtain ⟨_, ⟨t', c', rfl, hc'⟩⟩ := hb
  exact ⟨⟨c, t ++ m ++ (t' ++ [c']), by simp, hc⟩, ⟨c :: t ++ m ++ t', c', by simp, hc'⟩⟩

theorem trimMatches_core (lead core trail : List Char) (hlead : ∀ x ∈ lead, isTrimChar x = true)
    (htrail : ∀ x ∈ trail, isTrimChar x = true) (h : Trimmed core) : trimMatches (lead ++ core ++ trail) = core := by
  obtain ⟨⟨c0, t0, h0, hc0⟩, ⟨t1, c1, h1, hc1⟩⟩ := h
  unfold trimMatches
  have e1 : (lead ++ core ++ trail).dropWhile isTrimChar = core ++ trail := by
    rw [List.append_assoc, h0, List.cons_append, (span_run isTrimChar lead (c0 :: _) hlead (fun _ _ h => by cases h; exact hc0)).2]
  rw [e1]
  have e2 : (core ++ trail).reverse = trail.reverse ++ c1 :: t1.reverse := by
    rw [h1]; simp
  rw [e2, (span_run isTrimChar trail.reverse (c1 :: _) (fun x hx => htrail x (List.mem_reverse.mp hx)) (fun _ _ h => by cases h; exact hc1)).2]
  rw [h1]; simp

theorem GoodLine.head {l : List Char} (hl : GoodLine l) : Begins l := by
  obtain ⟨c, t, rfl⟩ := List.exists_cons_of_ne_nil hl.ne
  exact ⟨c, t, rfl, hl.first c t rfl⟩

theorem GoodLine.end {l : List Char} (hl : GoodLine l) : ∃ t c, l = t ++ [c] ∧ isTrimChar c = false := by
  obtain ⟨t, c, h⟩ := exists_concat l hl.ne
  exact ⟨t, c, h, hl.last c t h⟩

theorem GoodLine.trimmed {l : List Char} (hl : GoodLine l) : Trimmed l := ⟨hl.head, hl.end⟩

theorem renderPar_trimmed (eol : List Char) : ∀ (ls : List (List Char)), ls ≠ [] → (∀ l ∈ ls, GoodLine l) → Trimmed (renderPar eol ls)
  | [], h, _ => absurd rfl h
  | [a], _, hg => (hg a (by simp)).trimmed
  | a :: b :: ls, _, hg => by
    rw [renderPar_cons2]
    exact (hg a (by simp)).trimmed.append (renderPar_trimmed eol (b :: ls) (by simp) fun l hl => hg l (by simp [hl])) _

theorem LineOk.good {l : List Char} (h : LineOk l) : GoodLine l := by
  rcases h with ⟨hg, _⟩ | ⟨t, rfl, hg, _⟩
  · exact hg
  · refine ⟨by simp, fun c hc => ?_, fun c t' h => ?_, fun c t' h => ?_⟩
    · rcases List.mem_cons.mp hc with rfl | hc
      · exact ⟨by decide, by decide⟩
      · exact hg.chars c hc
    · cases h
      decide
    · cases t' with
      | nil =>
        cases h
        exact absurd rfl hg.ne
      | cons x t'' =>
        injection h with _ h
        exact hg.last c t'' h

theorem noiseAt_run (run rest : List Char) (q : Nat) (hrun : ∀ c ∈ run, isNoise c = true) (hout : HeadOut cls5 rest) :
    noiseAt (run ++ rest) q = if '\n' ∈ run then some (q + utf8Len run) else none := by
  unfold noiseAt
  rw [(span_run isNoise run rest hrun hout).1]

theorem parAt_run (eol bl rest : List Char) (q : Nat) (he : EolOk eol) (hbl : ∀ c ∈ bl, isC3 c = true) (hout : HeadOut cls3 rest) :
    parAt (eol ++ (bl ++ rest)) q = match nlPrefix rest with
      | none => none
      | some (_, d2) => some (q + utf8Len eol + utf8Len bl + d2) := by
  unfold parAt
  rw [nlPrefix_eol _ _ he]
  simp only [(span_run isC3 bl rest hbl hout).1, (span_run isC3 bl rest hbl hout).2]
  cases nlPrefix rest <;> rfl

theorem atAt_run (c d : Char) (ws r : List Char) (q : Nat) (hws : ∀ x ∈ ws, isWs x = true) (hd : isWs d = false) :
    atAt (c :: (ws ++ d :: r)) q = if c ≠ '\n' ∧ d = '@' then some (q + c.utf8Size + utf8Len ws + 1) else none := by
  have hs := span_run isWs ws (d :: r) hws (fun _ _ h => by cases h; exact hd)
  unfold atAt
  simp only [hs.1, hs.2]
  by_cases hc : c = '\n' <;> simp [hc]

theorem atAt_first (c : Char) (t : List Char) (q : Nat) (h : ∀ d r, t.dropWhile isWs = d :: r → d ≠ '@') :
    atAt (c :: t) q = none := by
  unfold atAt
  simp only
  split
  · rfl
  · cases hd : t.dropWhile isWs with
    | nil => rfl
    | cons d r => simp [h d r hd]

theorem parAt_needs_nl (s : List Char) (q : Nat) (h : '\n' ∉ s) : parAt s q = none := by
  have : nlPrefix s = none := by
    unfold nlPrefix
    split <;> simp_all
  simp [parAt, this]

theorem noiseAt_needs_nl (s : List Char) (q : Nat) (h : '\n' ∉ s) : noiseAt s q = none :=
  if_neg fun hm => h ((List.takeWhile_sublist _).subset hm)

theorem atAt_needs_at (s : List Char) (q : Nat) (h : '@' ∉ s) : atAt s q = none := by
  cases s with
  | nil => rfl
  | cons c t =>
    refine atAt_first c t q fun d r hd e => h (List.mem_cons_of_mem _ ((List.dropWhile_sublist isWs).subset ?_))
    rw [hd, e]
    simp

theorem failsIn_at (s : List Char) (h : '@' ∉ s) : FailsIn atAt s [] :=
  failsIn_lacks atAt '@' atAt_needs_at s h

theorem failsIn_par_heads (a rest : List Char) (h : ∀ c ∈ a, c ≠ '\n' ∧ c ≠ '\r') : FailsIn parAt a rest :=
  FailsIn_of_heads parAt a rest fun c hc t q => by
    simp [parAt, nlPrefix_none_of_head c t (h c hc).2 (h c hc).1]

theorem failsIn_par_c3 (a rest : List Char) (h : ∀ c ∈ a, isC3 c = true) : FailsIn parAt a rest := by
  refine failsIn_par_heads a rest fun c hc => ⟨?_, ?_⟩
  · rintro rfl
    exact absurd (h _ hc) (by decide)
  · rintro rfl
    exact absurd (h _ hc) (by decide)

theorem parAt_break_line (pre blanks post : List Char) (q : Nat) (hpre : EolOk pre)
    (hb : ∀ c ∈ blanks, isC3 c = true) (hpost : Begins post) : parAt (pre ++ (blanks ++ post)) q = none := by
  obtain ⟨c, t, rfl, hc⟩ := hpost
  have hc := not_trim c hc
  rw [parAt_run pre blanks _ q hpre hb (fun _ _ h => by cases h; exact hc.1), nlPrefix_none_of_head c _ hc.2.2.2.1 hc.2.2.2.2]

/-- inside a line end: at its first character, and at the `\n` of `\r\n` -/
theorem FailsIn_eol (at_ : List Char → Nat → Option Nat) (eol rest : List Char) (he : EolOk eol)
    (h1 : ∀ q, at_ (eol ++ rest) q = none) (h2 : ∀ q, at_ ('\n' :: rest) q = none) : FailsIn at_ eol rest := by
  rcases he with rfl | rfl
  · exact (FailsIn_cons at_ _ _ rest).2 ⟨h1, FailsIn_nil at_ rest⟩
  · exact (FailsIn_cons at_ _ _ rest).2 ⟨h1, (FailsIn_cons at_ _ _ rest).2 ⟨h2, FailsIn_nil at_ rest⟩⟩

theorem failsIn_par_lsep (eol post : List Char) (he : EolOk eol) (hpost : Begins post) : FailsIn parAt (lsep eol) post :=
  FailsIn_append _ _ _ _
    (FailsIn_eol parAt eol _ he (fun q => parAt_break_line eol _ post q he blanks3 hpost)
      (fun q => parAt_break_line ['\n'] _ post q (Or.inl rfl) blanks3 hpost))
    (failsIn_par_c3 _ _ blanks3)

theorem failsIn_par_renderPar (eol : List Char) (he : EolOk eol) : ∀ (ls : List (List Char)) (rest : List Char),
    (∀ l ∈ ls, GoodLine l) → FailsIn parAt (renderPar eol ls) rest
  | [], rest, _ => FailsIn_nil parAt rest
  | [a], rest, hg => failsIn_par_heads a rest (hg a (by simp)).chars
  | a :: b :: ls, rest, hg => by
    have hg' : ∀ l ∈ b :: ls, GoodLine l := fun l hl => hg l (by simp [hl])
    rw [renderPar_cons2]
    exact FailsIn_append _ _ _ _
      (FailsIn_append _ _ _ _ (failsIn_par_heads a _ (hg a (by simp)).chars)
        (failsIn_par_lsep eol _ he ((renderPar_trimmed eol (b :: ls) (by simp) hg').1.append rest)))
      (failsIn_par_renderPar eol he (b :: ls) rest hg')

theorem failsIn_par_close (eol : List Char) (he : EolOk eol) : FailsIn parAt (eol ++ [' ']) [] := by
  apply FailsIn_append
  · apply FailsIn_eol parAt eol _ he
    · intro q; rcases he with rfl | rfl <;> rfl
    · intro q; rfl
  · exact failsIn_par_c3 _ _ (by decide)

theorem parAt_pbreak (eol post : List Char) (he : EolOk eol) (q : Nat) :
    parAt (pbreak eol ++ post) q = some (q + utf8Len (pbreak eol)) := by
  have hout : HeadOut cls3 (eol ++ post) := by
    rcases he with rfl | rfl <;> (intro c t h; cases h; decide)
  rw [pbreak, List.append_assoc, List.append_assoc, parAt_run eol [' ', '*'] _ q he (by decide) hout, nlPrefix_eol _ _ he]
  simp only [utf8Len_append, Nat.add_assoc]

def pieces (eol : List Char) : List Char → List (List Char) → List (List (List Char)) → List (List Char)
  | lead, p, [] => [lead ++ renderPar eol p ++ (eol ++ [' '])]
  | lead, p, p2 :: ps => (lead ++ renderPar eol p) :: pieces eol [' ', '*', ' '] p2 ps

theorem split_body (eol : List Char) (he : EolOk eol) : ∀ (ps : List (List (List Char))) (lead : List Char) (p : List (List Char)) (n : Nat),
    (∀ r, FailsIn parAt lead (renderPar eol p ++ r)) → (∀ P ∈ p :: ps, ∀ l ∈ P, GoodLine l) → ps.length ≤ n →
    splitWith scanPar n (lead ++ renderPar eol p ++ bodyTail eol ps) = pieces eol lead p ps
  | [], lead, p, n, hlead, hP, _ => by
    have hg := hP p (by simp)
    rw [bodyTail, pieces]
    exact splitWith_none _ n _ (scanWith_none parAt _
      (FailsIn_append _ _ _ _ (FailsIn_append _ _ _ _ (hlead _) (failsIn_par_renderPar eol he p _ hg))
        (failsIn_par_close eol he)) fun _ => rfl)
  | p2 :: ps, lead, p, 0, _, _, hn => by simp at hn
  | p2 :: ps, lead, p, n + 1, hlead, hP, hn => by
    have hg := hP p (by simp)
    rw [bodyTail, pieces,
      show lead ++ renderPar eol p ++ (pbreak eol ++ [' ', '*', ' '] ++ renderPar eol p2 ++ bodyTail eol ps)
          = (lead ++ renderPar eol p) ++ pbreak eol ++ ([' ', '*', ' '] ++ renderPar eol p2 ++ bodyTail eol ps) by
        simp [List.append_assoc],
      splitWith_step scanPar n _ _ _ (pbreak_ne eol)
        (scan_found parAt _ _ _ (pbreak_ne eol) (FailsIn_append _ _ _ _ (hlead _) (failsIn_par_renderPar eol he p _ hg))
          (fun q => parAt_pbreak eol _ he q)),
      split_body eol he ps [' ', '*', ' '] p2 n (fun r => failsIn_par_c3 _ _ blanks3)
        (fun P hPm => hP P (List.mem_cons_of_mem _ hPm)) (by simp at hn; omega)]

theorem noiseAt_none (a : List Char) (b : Char) (r : List Char) (q : Nat) (hb : isNoise b = false) (ha : '\n' ∉ a) :
    noiseAt (a ++ b :: r) q = none := by
  refine if_neg fun hm => ha ?_
  rw [(span_stop isNoise b r hb a).1] at hm
  exact (List.takeWhile_sublist _).subset hm

theorem failsIn_noise_line (l rest : List Char) (hl : GoodLine l) : FailsIn noiseAt l rest := by
  intro p1 p2 q hsplit hne
  obtain ⟨p2', last, rfl⟩ := exists_concat p2 hne
  rw [List.append_assoc]
  refine noiseAt_none p2' last rest q (not_trim last (hl.last last (p1 ++ p2') ?_)).2.1 fun hm => ?_
  · rw [hsplit, List.append_assoc]
  · exact (hl.chars '\n' (by rw [hsplit]; simp [hm])).1 rfl

theorem noiseAt_lsep (eol post : List Char) (he : EolOk eol) (hpost : Begins post) (q : Nat) :
    noiseAt (lsep eol ++ post) q = some (q + utf8Len (lsep eol)) := by
  obtain ⟨c, t, rfl, hc⟩ := hpost
  rw [noiseAt_run _ _ q (by rcases he with rfl | rfl <;> decide) (fun _ _ h => by cases h; exact (not_trim c hc).2.1), if_pos]
  rcases he with rfl | rfl <;> decide

theorem replace_par (eol : List Char) (he : EolOk eol) : ∀ (ls : List (List Char)) (n : Nat), (∀ l ∈ ls, GoodLine l) →
    ls.length ≤ n → replaceWith scanNoise (fun _ => [' ']) n (renderPar eol ls) = intercalate [' '] ls
  | [], n, _, _ => replaceWith_none _ _ n [] rfl
  | [a], n, hg, _ =>
    replaceWith_none _ _ n a (scanWith_none noiseAt a (failsIn_noise_line a [] (hg a (by simp))) fun _ => rfl)
  | a :: b :: ls, 0, _, hn => by simp at hn
  | a :: b :: ls, n + 1, hg, hn => by
    have hg' : ∀ l ∈ b :: ls, GoodLine l := fun l hl => hg l (by simp [hl])
    rw [renderPar_cons2, replaceWith_step scanNoise _ n a (lsep eol) _ (lsep_ne eol)
        (scan_found noiseAt a _ _ (lsep_ne eol) (failsIn_noise_line a _ (hg a (by simp)))
          (noiseAt_lsep eol _ he (renderPar_trimmed eol (b :: ls) (by simp) hg').1)),
      replace_par eol he (b :: ls) n hg' (by simp at hn ⊢; omega), intercalate_cons_cons]

def tailJoin : List (List Char) → List Char
  | [] => []
  | b :: ls => [' '] ++ b ++ tailJoin ls

theorem intercalate_eq_tailJoin : ∀ (a : List Char) (ls : List (List Char)), intercalate [' '] (a :: ls) = a ++ tailJoin ls
  | a, [] => by simp [intercalate, tailJoin]
  | a, b :: ls => by rw [intercalate_cons_cons, intercalate_eq_tailJoin b ls, tailJoin]; simp [List.append_assoc]

theorem atAt_equivariant : Equivariant atAt := by
  intro s p d
  unfold atAt
  cases s with
  | nil => rfl
  | cons c t =>
    simp only
    split
    · rfl
    · split
      · split
        · simp only [Option.map_some]; congr 1; omega
        · rfl
      · rfl

theorem atAt_none (c : Char) (a : List Char) (b : Char) (r : List Char) (q : Nat) (hb : isWs b = false)
    (ha : '@' ∉ a) (hb' : b ≠ '@') : atAt (c :: (a ++ b :: r)) q = none := by
  refine atAt_first c _ q fun d t hd e => ?_
  rw [(span_stop isWs b r hb a).2] at hd
  cases h : a.dropWhile isWs with
  | nil =>
    rw [h] at hd
    cases hd
    exact hb' e
  | cons d' t' =>
    rw [h] at hd
    cases hd
    exact ha ((List.dropWhile_sublist isWs).subset (by rw [h, e]; simp))

theorem failsIn_at_before (a : List Char) (b : Char) (r : List Char) (ha : '@' ∉ a) (hb : isWs b = false) (hb' : b ≠ '@') :
    FailsIn atAt a (b :: r) := by
  intro p1 p2 q hsplit hne
  cases p2 with
  | nil => exact absurd rfl hne
  | cons c t => exact atAt_none c t b r q hb (fun h => ha (by rw [hsplit]; simp [h])) hb'

theorem atAt_tag (c : Char) (rest : List Char) (q : Nat) (hc : c ≠ '\n') :
    atAt (c :: ' ' :: '@' :: rest) q = some (q + utf8Len [c, ' ', '@']) := by
  have := atAt_run c '@' [' '] rest q (by decide) (by decide)
  rw [if_pos ⟨hc, rfl⟩] at this
  rw [show c :: ' ' :: '@' :: rest = c :: ([' '] ++ '@' :: rest) from rfl, this]
  have h1 : (' ' : Char).utf8Size = 1 := by decide
  have h2 : ('@' : Char).utf8Size = 1 := by decide
  simp only [utf8Len_cons, utf8Len_nil, h1, h2, Nat.add_assoc]

def repAt (m : List Char) : List Char := (m.take 1) ++ ['\n', '@']

theorem skip_at (n : Nat) (pre rest : List Char) (hf : FailsIn atAt pre rest) :
    replaceWith scanAt repAt n (pre ++ rest) = pre ++ replaceWith scanAt repAt n rest :=
  replaceWith_skip atAt atAt_equivariant repAt n pre rest hf

theorem at_pass : ∀ (ls : List (List Char)) (n : Nat) (a : List Char), GoodLine a → '@' ∉ a → (∀ l ∈ ls, LineOk l) → ls.length ≤ n →
    replaceWith scanAt repAt n (a ++ tailJoin ls) = a ++ tailAt ls
  | [], n, a, _, hat, _, _ => by
    rw [tailJoin, tailAt, List.append_nil]
    exact replaceWith_none _ _ _ _ (scanWith_lacks atAt '@' atAt_needs_at a hat)
  | b :: ls, n, a, ha, hat, hls, hn => by
    have hls' : ∀ l ∈ ls, LineOk l := fun l hl => hls l (by simp [hl])
    rcases hls b (by simp) with ⟨hbg, hbat⟩ | ⟨tb, rfl, htbg, htbat⟩
    · -- a plain line follows: up to its first character nothing matches
      obtain ⟨b0, bt, rfl, hb0⟩ := hbg.head
      have hb0' : b0 ≠ '@' := fun e => hbat (by simp [e])
      rw [show a ++ tailJoin ((b0 :: bt) :: ls) = (a ++ [' ']) ++ (b0 :: (bt ++ tailJoin ls)) by simp [tailJoin],
        skip_at n _ _ (failsIn_at_before _ b0 _ (by simp [hat]) (not_trim b0 hb0).2.2.1 hb0'),
        show b0 :: (bt ++ tailJoin ls) = (b0 :: bt) ++ tailJoin ls from rfl,
        at_pass ls n (b0 :: bt) hbg hbat hls' (by simp at hn; omega)]
      simp [tailAt, isTag, hb0', List.append_assoc]
    · -- a tag follows: the last character of `a`, the blank and the `@` are replaced
      obtain ⟨a', z, rfl, hz⟩ := ha.end
      have hzn : z ≠ '\n' := (ha.chars z (by simp)).1
      have hza : z ≠ '@' := fun e => hat (by simp [e])
      cases n with
      | zero => simp at hn
      | succ n =>
        rw [show a' ++ [z] ++ tailJoin (('@' :: tb) :: ls) = a' ++ [z, ' ', '@'] ++ (tb ++ tailJoin ls) by simp [tailJoin],
          replaceWith_step scanAt repAt n a' [z, ' ', '@'] _ (by simp)
            (scan_found atAt a' _ _ (by simp)
              (failsIn_at_before a' z _ (fun h => hat (by simp [h])) (not_trim z hz).2.2.1 hza)
              (fun q => atAt_tag z _ q hzn)),
          at_pass ls n tb htbg htbat hls' (by simp at hn; omega)]
        simp [repAt, tailAt, isTag, List.append_assoc]

theorem at_pass_par (n : Nat) (ls : List (List Char)) (hls : ∀ l ∈ ls, LineOk l) (hn : ls.length ≤ n) :
    replaceWith scanAt repAt n (intercalate [' '] ls) = atJoin ls := by
  cases ls with
  | nil => exact replaceWith_none _ _ n [] rfl
  | cons a ls =>
    have hls' : ∀ l ∈ ls, LineOk l := fun l hl => hls l (by simp [hl])
    rw [intercalate_eq_tailJoin, atJoin]
    rcases hls a (by simp) with ⟨hag, haat⟩ | ⟨ta, rfl, htag, htaat⟩
    · exact at_pass ls n a hag haat hls' (by simp at hn; omega)
    · -- the `@` of a tag clause that comes first has no character before it
      obtain ⟨t0, tt, rfl, ht0⟩ := htag.head
      have ht0' : t0 ≠ '@' := fun e => htaat (by simp [e])
      have hskip : FailsIn atAt ['@'] (t0 :: tt ++ tailJoin ls) :=
        (FailsIn_cons atAt '@' [] _).2 ⟨fun q => atAt_none '@' [] t0 _ q (not_trim t0 ht0).2.2.1 (by simp) ht0', FailsIn_nil _ _⟩
      rw [show ('@' :: t0 :: tt) ++ tailJoin ls = ['@'] ++ (t0 :: tt ++ tailJoin ls) from rfl, skip_at n _ _ hskip,
        at_pass ls n (t0 :: tt) htag htaat hls' (by simp at hn; omega)]
      rfl

/-- what `parse_javadoc` does to one piece of the split -/
def normPiece (n : Nat) (p : List Char) : List Char :=
  replaceWith scanAt repAt n (replaceWith scanNoise (fun _ => [' ']) n (trimMatches p))

theorem normPiece_par (eol : List Char) (he : EolOk eol) (lead trail : List Char) (ls : List (List Char)) (n : Nat)
    (hlead : ∀ x ∈ lead, isTrimChar x = true) (htrail : ∀ x ∈ trail, isTrimChar x = true)
    (hne : ls ≠ []) (hok : ∀ l ∈ ls, LineOk l) (hn : ls.length ≤ n) :
    normPiece n (lead ++ renderPar eol ls ++ trail) = atJoin ls := by
  have hg : ∀ l ∈ ls, GoodLine l := fun l hl => (hok l hl).good
  unfold normPiece
  rw [trimMatches_core lead _ trail hlead htrail (renderPar_trimmed eol ls hne hg), replace_par eol he ls n hg hn]
  exact at_pass_par n ls hok hn

theorem pieces_norm (eol : List Char) (he : EolOk eol) (n : Nat) : ∀ (ps : List (List (List Char))) (lead : List Char) (p : List (List Char)),
    (∀ x ∈ lead, isTrimChar x = true) → (∀ P ∈ p :: ps, P ≠ [] ∧ ∀ l ∈ P, LineOk l) → (∀ P ∈ p :: ps, P.length ≤ n) →
    (pieces eol lead p ps).map (normPiece n) = (p :: ps).map atJoin
  | [], lead, p, hlead, hP, hn => by
    rw [pieces, List.map_cons, normPiece_par eol he lead (eol ++ [' ']) p n hlead (close_trim eol he)
      (hP p (by simp)).1 (hP p (by simp)).2 (hn p (by simp))]
    rfl
  | p2 :: ps, lead, p, hlead, hP, hn => by
    have := normPiece_par eol he lead [] p n hlead (by simp) (hP p (by simp)).1 (hP p (by simp)).2 (hn p (by simp))
    rw [List.append_nil] at this
    rw [pieces, List.map_cons, this, pieces_norm eol he n ps [' ', '*', ' '] p2 blanks_trim
      (fun P hPm => hP P (List.mem_cons_of_mem _ hPm)) (fun P hPm => hn P (List.mem_cons_of_mem _ hPm))]
    rfl

theorem len_renderPar (eol : List Char) : ∀ (ls : List (List Char)), (∀ l ∈ ls, l ≠ []) → ls.length ≤ (renderPar eol ls).length
  | [], _ => by simp
  | [a], h => by
    rw [renderPar_single]
    have := List.length_pos_iff.mpr (h a (by simp))
    simp; omega
  | a :: b :: ls, h => by
    rw [renderPar_cons2]
    have ih := len_renderPar eol (b :: ls) (fun l hl => h l (by simp [hl]))
    have := List.length_pos_iff.mpr (h a (by simp))
    simp only [List.length_append, List.length_cons] at ih ⊢
    omega

theorem len_bodyTail (eol : List Char) : ∀ (ps : List (List (List Char))), ps.length ≤ (bodyTail eol ps).length
  | [] => by simp
  | p :: ps => by
    have := len_bodyTail eol ps
    simp only [bodyTail, List.length_append, List.length_cons] at this ⊢
    omega

theorem len_par_body (eol : List Char) : ∀ (ps : List (List (List Char))) (p P : List (List Char)), P ∈ p :: ps →
    (renderPar eol P).length ≤ (renderPar eol p ++ bodyTail eol ps).length
  | [], p, P, h => by
    rw [List.mem_singleton.mp h, List.length_append]
    omega
  | p2 :: ps, p, P, h => by
    simp only [bodyTail, List.length_append]
    rcases List.mem_cons.mp h with rfl | h
    · omega
    · have := len_par_body eol ps p2 P h
      rw [List.length_append] at this
      omega

/-- the closed form for any decoration `lead` before the first line (` * ` on a line of its own, or a blank on the line of `/**`) -/
theorem parseJavadocSpec_structured_gen (eol : List Char) (he : EolOk eol) (lead : List Char) (p : List (List Char)) (ps : List (List (List Char)))
    (hltrim : ∀ x ∈ lead, isTrimChar x = true) (hlead : ∀ r, FailsIn parAt lead (renderPar eol p ++ r))
    (hP : ∀ P ∈ p :: ps, P ≠ [] ∧ ∀ l ∈ P, LineOk l) :
    parseJavadocSpec (lead ++ renderPar eol p ++ bodyTail eol ps) = intercalate ['\n'] ((p :: ps).map atJoin) := by
  have hg : ∀ P ∈ p :: ps, ∀ l ∈ P, GoodLine l := fun P hPm l hl => ((hP P hPm).2 l hl).good
  -- the loops run at most (length of the text + 1) times: enough for the paragraphs, and for the lines of each
  have hn1 : ps.length ≤ (lead ++ renderPar eol p ++ bodyTail eol ps).length + 1 := by
    have := len_bodyTail eol ps
    simp only [List.length_append]
    omega
  have hn2 : ∀ P ∈ p :: ps, P.length ≤ (lead ++ renderPar eol p ++ bodyTail eol ps).length + 1 := by
    intro P hPm
    have h1 := len_renderPar eol P fun l hl => (hg P hPm l hl).ne
    have h2 := len_par_body eol ps p P hPm
    simp only [List.length_append] at h2 ⊢
    omega
  unfold parseJavadocSpec
  simp only
  rw [split_body eol he ps lead p _ hlead hg hn1]
  congr 1
  exact pieces_norm eol he _ ps lead p hltrim hP hn2

/-- the first line on the line of `/**` itself: `/** first␤ * second␤ */` -/
theorem parseJavadoc_structured_same_line (eol : List Char) (he : EolOk eol) (p : List (List Char)) (ps : List (List (List Char)))
    (hP : ∀ P ∈ p :: ps, P ≠ [] ∧ ∀ l ∈ P, LineOk l) :
    parseJavadoc ([' '] ++ renderPar eol p ++ bodyTail eol ps) = intercalate ['\n'] ((p :: ps).map atJoin) := by
  rw [parseJavadoc_eq_spec]
  exact parseJavadocSpec_structured_gen eol he [' '] p ps (by decide) (fun r => failsIn_par_c3 _ _ (by decide)) hP

/-- the first line on a line of its own, after ` * `: `/**␤ * first␤ * second␤ */` -/
theorem parseJavadoc_structured (eol : List Char) (he : EolOk eol) (p : List (List Char)) (ps : List (List (List Char)))
    (hP : ∀ P ∈ p :: ps, P ≠ [] ∧ ∀ l ∈ P, LineOk l) :
    parseJavadoc (renderBody eol (p :: ps)) = intercalate ['\n'] ((p :: ps).map atJoin) := by
  obtain ⟨hp1, hp2⟩ := hP p (by simp)
  rw [parseJavadoc_eq_spec]
  exact parseJavadocSpec_structured_gen eol he (lsep eol) p ps (lsep_trim eol he)
    (fun r => failsIn_par_lsep eol _ he ((renderPar_trimmed eol p hp1 fun l hl => (hp2 l hl).good).1.append r)) hP

theorem doc_structured (pre rest : List Char) (pcs : List JavadocAttach.Piece) (hpcs : ∀ x ∈ pcs, x.ok)
    (eol : List Char) (he : EolOk eol) (p : List (List Char)) (ps : List (List (List Char)))
    (hP : ∀ P ∈ p :: ps, P ≠ [] ∧ ∀ l ∈ P, LineOk l)
    (hslash : ∀ x ∈ renderBody eol (p :: ps), x ≠ '/') :
    getJavadoc (pre ++ ['/', '*', '*'] ++ renderBody eol (p :: ps) ++ ['*', '/'] ++ JavadocAttach.flat pcs ++ rest)
        (utf8Len (pre ++ ['/', '*', '*'] ++ renderBody eol (p :: ps) ++ ['*', '/'] ++ JavadocAttach.flat pcs))
      = .ok (some (String.ofList (intercalate ['\n'] ((p :: ps).map atJoin)))) := by
  have hhead : (renderBody eol (p :: ps)).head? ≠ some '*' := by
    rcases he with rfl | rfl <;> simp [renderBody, lsep]
  rw [JavadocAttach.getJavadoc_doc pre _ rest pcs hslash hhead hpcs, parseJavadoc_structured eol he p ps hP]

/-- non-vacuity (nothing but the layout is evaluated) -/
example : parseJavadoc "\r\n * Größe  日本\r\n * 🎉 ok\r\n *\r\n * second\r\n ".toList = "Größe  日本 🎉 ok\nsecond".toList := by
  have h := parseJavadoc_structured ['\r', '\n'] (Or.inr rfl) ["Größe  日本".toList, "🎉 ok".toList] [["second".toList]]
  rw [String.toList_ofList, String.toList_ofList, String.toList_ofList] at h
  rw [String.toList_ofList, String.toList_ofList]
  refine h ?_
  simp only [List.forall_mem_cons, List.not_mem_nil, false_imp_iff, implies_true, and_true]
  refine ⟨⟨by simp, ?_, ?_⟩, by simp, ?_⟩ <;>
    exact Or.inl ⟨goodLine_of_decide _ (by decide) (by decide) (by decide) (by decide), by decide⟩

/-- non-vacuity, with a tag clause -/
example : parseJavadoc "\n * first  line\n * @param x é\n ".toList = "first  line\n@param x é".toList := by
  have h := parseJavadoc_structured ['\n'] (Or.inl rfl) ["first  line".toList, "@param x é".toList] []
  rw [String.toList_ofList, String.toList_ofList] at h
  rw [String.toList_ofList, String.toList_ofList]
  refine h ?_
  simp only [List.forall_mem_cons, List.not_mem_nil, false_imp_iff, implies_true, and_true]
  refine ⟨by simp, ?_, ?_⟩
  · exact Or.inl ⟨goodLine_of_decide _ (by decide) (by decide) (by decide) (by decide), by decide⟩
  · exact Or.inr ⟨_, rfl, goodLine_of_decide _ (by decide) (by decide) (by decide) (by decide), by decide⟩

end Aidl.Props.JavadocForm

/-! In namespace `JavadocWords` like the other statement of what is kept verbatim, `doc_words_verbatim`; proved here because
the proof is the case "no pass finds anything" of the specification and the scan lemmas above (`scanWith_lacks`). -/

namespace Aidl.Props.JavadocWords
open Aidl.Regex Aidl.Javadoc Aidl.Props.JavadocTotal Aidl.Props.JavadocAttach Aidl.Props.JavadocSpec Aidl.Props.JavadocForm

/-- `/** text */` documents its construct with `text`, trimmed of surrounding blanks and stars -/
theorem parseJavadoc_one_line (s : List Char) (hnl : '\n' ∉ s) (hat : '@' ∉ s) : parseJavadoc s = trimMatches s := by
  have ht1 : '\n' ∉ trimMatches s := fun h => hnl (mem_trimMatches h)
  have ht2 : '@' ∉ trimMatches s := fun h => hat (mem_trimMatches h)
  rw [parseJavadoc_eq_spec]
  unfold parseJavadocSpec
  simp only
  rw [splitWith_none _ _ _ (scanWith_lacks parAt _ parAt_needs_nl s hnl)]
  simp only [List.map_cons, List.map_nil, intercalate]
  rw [replaceWith_none scanNoise _ _ _ (scanWith_lacks noiseAt _ noiseAt_needs_nl _ ht1),
    replaceWith_none scanAt _ _ _ (scanWith_lacks atAt _ atAt_needs_at _ ht2)]

theorem doc_one_line_verbatim (pre body rest : List Char) (ps : List Piece)
    (hbody : ∀ x ∈ body, x ≠ '/') (hhead : body.head? ≠ some '*') (hps : ∀ p ∈ ps, p.ok)
    (hnl : '\n' ∉ body) (hat : '@' ∉ body) :
    getJavadoc (pre ++ ['/', '*', '*'] ++ body ++ ['*', '/'] ++ flat ps ++ rest)
        (utf8Len (pre ++ ['/', '*', '*'] ++ body ++ ['*', '/'] ++ flat ps))
      = .ok (some (String.ofList (trimMatches body))) := by
  rw [getJavadoc_doc pre body rest ps hbody hhead hps, parseJavadoc_one_line body hnl hat]

example : parseJavadoc " Größe  der 🎉, x=1 ".toList = "Größe  der 🎉, x=1".toList := by
  have h := parseJavadoc_one_line " Größe  der 🎉, x=1 ".toList
  rw [String.toList_ofList] at h
  rw [String.toList_ofList, String.toList_ofList, h (by decide) (by decide)]
  decide +kernel

end Aidl.Props.JavadocWords
