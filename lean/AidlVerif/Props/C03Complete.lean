import AidlVerif.Props.LrCompleteCert
import AidlVerif.Props.LrCompleteDriver
import AidlVerif.Props.ParseTerm
import AidlVerif.Props.LrHist

/-!
C03, the other half, for every text: well-formed under the grammar ⇒ accepted, no error recovery.

`LrSound.accepted_derives` (with `ParseTyped.accepted_clean_derives`) is "accepted without error ⇒
the tokens are derivable"; `wellformed_accepted` is the converse. Together: on the token level the syntax
verdict of the model is exactly derivability in the grammar extracted from the generated parser.
-/

namespace Aidl.Props.C03Complete
open Aidl Aidl.Lr Aidl.Actions Aidl.Lexer Aidl.Props.LrSound Aidl.Props.LrComplete Aidl.Props.LrInv

/-- the token columns of a text (`none`: an invalid token, a token without a column, or the step bound) -/
def lexColsOf (T : Tables) : Nat → List Char → Nat → Option (List Nat)
  | 0, _, _ => none
  | f + 1, i, p =>
    match Lexer.next T.lex (i.length + 1) i p with
    | .eof => some []
    | .invalid _ => none
    | .token t r =>
      match T.tokToCol.lookup t.index with
      | none => none
      | some c => (lexColsOf T f r t.stop).map (c :: ·)

theorem lexColsOf_sound (T : Tables) : ∀ (f : Nat) (i : List Char) (p : Nat) (w : List Nat),
    lexColsOf T f i p = some w → LexCols T i p w := by
  intro f
  induction f with
  | zero => intro i p w h; simp [lexColsOf] at h
  | succ f ih =>
    intro i p w h
    unfold lexColsOf at h
    cases hn : Lexer.next T.lex (i.length + 1) i p with
    | eof => rw [hn] at h; cases h; exact LexCols.eof hn
    | invalid l => rw [hn] at h; cases h
    | token t r =>
      rw [hn] at h
      dsimp only at h
      cases hc : T.tokToCol.lookup t.index with
      | none => rw [hc] at h; cases h
      | some c =>
        rw [hc] at h
        obtain ⟨w', hr, rfl⟩ := Option.map_eq_some_iff.mp h
        exact LexCols.tok hn hc (ih r t.stop w' hr)

theorem finishE_stop (env : Env) (id : String) (s : St) (o : Outcome) (r : FileResult)
    (h : finishE env id s o = .ok r) : ¬ Stops o := by
  cases LrDriver.finishE_finished h with
  | none => exact fun hs => hs
  | tree a => exact fun hs => hs
  | err e d ds _ => exact fun hs => hs

/-- **For every text** (tables and certificates of this run): if its tokens are derivable from the
    accepting production, the model's `add_content` returns the result of an accepting run in which
    error recovery never ran — no parse error is reported, no `Invalid …` recovery diagnostic is pushed. -/
theorem wellformed_accepted (env : Env) (id text : String) (hE : EnvOk env text.toList) (w : List Nat)
    (hl : lexColsOf Driver.Parse.tables (text.toList.length + 1) text.toList 0 = some w)
    (hd : Derives Driver.Parse.tables w) :
    ∃ r v, addContentE Driver.Parse.tables env id text = .ok r
      ∧ (parseLoop Driver.Parse.tables env { input := text.toList } (parseFuel text)).2 = .accept v
      ∧ (parseLoop Driver.Parse.tables env { input := text.toList } (parseFuel text)).1.recovered = false := by
  obtain ⟨r, hr⟩ := ParseTerm.addContent_total env id text hE
  have hc := parse_complete_gen Driver.Parse.tables env its itemFacts_run text.toList w (parseFuel text)
    (lexColsOf_sound _ _ _ _ _ hl) hd
  have hr' := hr
  unfold addContentE at hr'
  rcases hc with hstop | ⟨v, hv, hrec⟩
  · exact absurd hstop (finishE_stop env id _ _ r hr')
  · exact ⟨r, v, hr, hv, hrec⟩

/-- no row of ACTION reduces by an accepting production in the `error` column (table and rows are
    walked as lists: indexing an array is what costs in the kernel) -/
def errColCheck (T : Tables) : Bool :=
  T.prods.toList.zipIdx.all fun pi => !pi.1.accept ||
    T.action.toList.all fun row => asReduce ((row.toList[T.ncols - 1]?).getD 0) != some pi.2

theorem errColOk_of_check (T : Tables) (h : errColCheck T = true) : LrHist.ErrColOk T := by
  intro q p prod hr hp
  have hrows := Checks.all_zipIdx h hp
  cases hacc : prod.accept with
  | false => rfl
  | true =>
    obtain ⟨row, hq, hc⟩ := LrDriver.actionAt_entry T (LrDriver.asReduce_ne_zero hr)
    simp only [hacc, Bool.not_true, Bool.false_or] at hrows
    have := List.all_eq_true.mp hrows row (Array.mem_toList_iff.mpr (Array.mem_of_getElem? hq))
    rw [Array.getElem?_toList, hc] at this
    simp only [Option.getD_some, bne_iff_ne, ne_eq] at this
    exact absurd hr this

theorem errCol_run : LrHist.ErrColOk Driver.Parse.tables := errColOk_of_check _ (by decide +kernel)

theorem lexColsOf_complete (T : Tables) (hL : LrTerm.LexProg T) {i : List Char} {p : Nat} {w : List Nat}
    (h : LexCols T i p w) : ∀ f, i.length < f → lexColsOf T f i p = some w := by
  induction h with
  | eof hn =>
    intro f hf
    cases f with
    | zero => omega
    | succ f => unfold lexColsOf; rw [hn]
  | tok hn hc _ ih =>
    rename_i i p t r c w
    intro f hf
    cases f with
    | zero => omega
    | succ f =>
      unfold lexColsOf
      rw [hn]
      dsimp only
      rw [hc]
      dsimp only
      have := hL _ _ _ _ _ hn
      rw [ih f (by omega)]
      rfl

theorem clean_tree_lexes_derives (env : Env) (id text : String) (r : FileResult)
    (h : addContentE Driver.Parse.tables env id text = .ok r) (ht : r.ast.isSome = true)
    (hno : ¬ Typed.hasError r.diags) :
    ∃ w, lexColsOf Driver.Parse.tables (text.toList.length + 1) text.toList 0 = some w ∧ Derives Driver.Parse.tables w := by
  obtain ⟨v, hv, hrec⟩ := ParseTyped.clean_run_gen _ LrSafe.cert LrTyped.tt LrSafe.cert_ok ParseTyped.tyFacts_run
    env id text r h ht hno
  have hlc := LrHist.accepted_lexcols Driver.Parse.tables env errCol_run text.toList (parseFuel text) v hv hrec
  exact ⟨_, lexColsOf_complete _ LrTerm.lexProg_run hlc _ (Nat.lt_succ_self _),
    ParseSound.accepted_derives_run env text (parseFuel text) v hv hrec⟩

/-- **Reported free of syntax errors ⇒ the text is well-formed under the grammar** (every text):
    if the model's `add_content` returns a tree and no Error diagnostic, the token sequence OF THE TEXT
    is derivable from the accepting production. -/
theorem clean_tree_derives (env : Env) (id text : String) (hE : EnvOk env text.toList) (w : List Nat)
    (hl : lexColsOf Driver.Parse.tables (text.toList.length + 1) text.toList 0 = some w)
    (r : FileResult) (h : addContentE Driver.Parse.tables env id text = .ok r)
    (ht : r.ast.isSome = true) (hno : ¬ Typed.hasError r.diags) : Derives Driver.Parse.tables w := by
  obtain ⟨w', hl', hd⟩ := clean_tree_lexes_derives env id text r h ht hno
  cases hl.symm.trans hl'
  exact hd

/-- **For every text, one of the two**: its token sequence is derivable from the accepting production
    of the grammar — or the result of the model's `add_content` carries an Error diagnostic. (No
    assumption that the text lexes: an unlexable text cannot be accepted without an Error.) -/
theorem derivable_or_error (env : Env) (id text : String) (hE : EnvOk env text.toList)
    (r : FileResult) (h : addContentE Driver.Parse.tables env id text = .ok r) :
    (∃ w, lexColsOf Driver.Parse.tables (text.toList.length + 1) text.toList 0 = some w ∧ Derives Driver.Parse.tables w)
      ∨ Typed.hasError r.diags := by
  by_cases hno : Typed.hasError r.diags
  · exact Or.inr hno
  · cases hast : r.ast with
    | none => exact absurd (ParseTyped.never_silent env id text hE r h hast) hno
    | some a => exact Or.inl (clean_tree_lexes_derives env id text r h (by rw [hast]; rfl) hno)

/-- **Failure is never silent, in terms of the grammar** (every text that lexes): if the token
    sequence of the text is NOT derivable from the accepting production, the result of the model's
    `add_content` carries an Error diagnostic. -/
theorem malformed_reports_error (env : Env) (id text : String) (hE : EnvOk env text.toList) (w : List Nat)
    (hl : lexColsOf Driver.Parse.tables (text.toList.length + 1) text.toList 0 = some w)
    (hnd : ¬ Derives Driver.Parse.tables w)
    (r : FileResult) (h : addContentE Driver.Parse.tables env id text = .ok r) : Typed.hasError r.diags :=
  (derivable_or_error env id text hE r h).resolve_left fun ⟨_, hl', hd⟩ => hnd (Option.some.inj (hl.symm.trans hl') ▸ hd)

end Aidl.Props.C03Complete
