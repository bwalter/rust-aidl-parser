import AidlVerif.Props.LexSkip
import AidlVerif.Props.LexerFuel

/-!
On a text that begins with a word (a letter or `_`, then the maximal run of letters, digits and `_`) the lexer of THIS
run's table returns ONE token whose text is that word; its entry (token kind) is the LAST entry of the table that matches
the whole word, and depends on the word alone: not on what follows, the position or the step bound (`next_word`).

`m_rel`: a matcher over an expression all of whose classes lie inside a set `P` of characters cannot see past the first
character outside `P`, and reports positions relative to where it starts; one induction gives both. The table enters
through one check that the kernel evaluates (`runClasses`): every entry either only has classes inside the run's
characters, or cannot begin with a start character.
-/

open Aidl.Regex Aidl.Lexer Aidl.Javadoc Aidl.Props.JavadocTotal Aidl.Props.LexerBounds
  Aidl.Props.RegexSound Aidl.Props.JavadocSpec Aidl.Props.SkipEntries Aidl.Props.LexSkip Aidl.Props.LexerFuel

namespace Aidl.Props.LexIdent

theorem starLoop_rel (rest : List Char) (d : Nat) (body : List Char → Nat → K → Option Nat)
    (hb : ∀ (x : List Char) (p : Nat) (k k' : K), (∀ y q, k (y ++ rest) (q + d) = (k' y q).map (· + d)) →
      body (x ++ rest) (p + d) k = (body x p k').map (· + d))
    (k k' : K) (hk : ∀ y q, k (y ++ rest) (q + d) = (k' y q).map (· + d)) :
    ∀ (n : Nat) (x : List Char) (p : Nat), starLoop body k n (x ++ rest) (p + d) = (starLoop body k' n x p).map (· + d) := by
  intro n
  induction n with
  | zero => intro x p; exact hk x p
  | succ n ih =>
    intro x p
    simp only [starLoop]
    have hc : ∀ y q, (fun s' p' => if p + d < p' then starLoop body k n s' p' else none) (y ++ rest) (q + d)
        = ((fun s' p' => if p < p' then starLoop body k' n s' p' else none) y q).map (· + d) := by
      intro y q
      simp only
      by_cases hlt : p < q
      · rw [if_pos (by omega), if_pos hlt]; exact ih y q
      · rw [if_neg (by omega), if_neg hlt]; rfl
    rw [hb x p _ _ hc, hk x p]
    generalize body x p (fun s' p' => if p < p' then starLoop body k' n s' p' else none) = A
    cases A <;> rfl

theorem m_rel (P : Char → Prop) (rest : List Char) (hrest : ∀ c t, rest = c :: t → ¬ P c) (d : Nat) (r : Re) (hr : clsAll P r) (f : Nat) :
    ∀ (x : List Char) (p : Nat) (k k' : K), (∀ y q, k (y ++ rest) (q + d) = (k' y q).map (· + d)) →
      m r f (x ++ rest) (p + d) k = (m r f x p k').map (· + d) := by
  induction r with
  | eps => intro x p k k' hk; simp only [m]; exact hk x p
  | cls rs =>
    intro x p k k' hk
    cases x with
    | nil =>
      rw [List.nil_append]
      cases hre : rest with
      | nil => simp [m]
      | cons c t =>
        simp only [m]
        have : inCls rs c = false := Bool.eq_false_iff.mpr fun hin => hrest c t hre (hr c hin)
        rw [this]; rfl
    | cons c x' =>
      rw [List.cons_append]
      simp only [m]
      split
      · have : p + d + c.utf8Size = p + c.utf8Size + d := by omega
        rw [this]; exact hk x' _
      · rfl
  | seq a b iha ihb =>
    intro x p k k' hk
    simp only [m]
    exact iha hr.1 x p _ _ (fun y q => ihb hr.2 y q k k' hk)
  | alt a b iha ihb =>
    intro x p k k' hk
    simp only [m]
    rw [iha hr.1 x p k k' hk, ihb hr.2 x p k k' hk]
    generalize m a f x p k' = A
    cases A <;> rfl
  | star a iha =>
    intro x p k k' hk
    simp only [m]
    exact starLoop_rel rest d (m a f) (fun x p k k' h => iha hr x p k k' h) k k' hk f x p

theorem matchAt_local (P : Char → Prop) (r : Re) (hr : clsAll P r) (f : Nat) (x rest : List Char) (p : Nat)
    (hrest : ∀ c t, rest = c :: t → ¬ P c) :
    matchAt r f (x ++ rest) p = (matchAt r f x 0).map (· + p) := by
  unfold matchAt
  have := m_rel P rest hrest p r hr f x 0 (fun _ p' => some p') (fun _ p' => some p') (fun _ _ => rfl)
  rw [Nat.zero_add] at this
  exact this

def rangesSub (rs cls : List (Nat × Nat)) : Bool := rs.all fun r => cls.any fun s => decide (s.1 ≤ r.1) && decide (r.2 ≤ s.2)

theorem rangesSub_sound (rs cls : List (Nat × Nat)) (h : rangesSub rs cls = true) (c : Char) (hc : inCls rs c = true) : inCls cls c = true := by
  unfold inCls at hc ⊢
  rw [List.any_eq_true] at hc ⊢
  obtain ⟨r, hr, hrc⟩ := hc
  unfold rangesSub at h
  rw [List.all_eq_true] at h
  have := h r hr
  rw [List.any_eq_true] at this
  obtain ⟨s, hs, hsr⟩ := this
  refine ⟨s, hs, ?_⟩
  simp only [Bool.and_eq_true, decide_eq_true_eq] at hsr hrc ⊢
  omega

def clsInside (cls : List (Nat × Nat)) : Re → Bool
  | .eps => true
  | .cls rs => rangesSub rs cls
  | .seq a b => clsInside cls a && clsInside cls b
  | .alt a b => clsInside cls a && clsInside cls b
  | .star a => clsInside cls a

theorem clsInside_sound (cls : List (Nat × Nat)) : ∀ (r : Re), clsInside cls r = true → clsAll (fun c => inCls cls c = true) r
  | .eps, _ => trivial
  | .cls rs, h => fun c hc => rangesSub_sound rs cls h c hc
  | .seq a b, h => by
    simp only [clsInside, Bool.and_eq_true] at h
    exact ⟨clsInside_sound cls a h.1, clsInside_sound cls b h.2⟩
  | .alt a b, h => by
    simp only [clsInside, Bool.and_eq_true] at h
    exact ⟨clsInside_sound cls a h.1, clsInside_sound cls b h.2⟩
  | .star a, h => clsInside_sound cls a h

def Full (table : LexTable) (f : Nat) (s : List Char) (p L i : Nat) : Prop := matchAt (table[i]! : Re × Bool).1 f s p = some (p + L)

/-- `LexerBounds.bestMatch_last` through `Full`; the proof does not use `hL` -/
theorem bestMatch_max (table : LexTable) (f : Nat) (s : List Char) (p L j0 : Nat) (hj0 : j0 < table.size) (hL : 0 < L)
    (hfull : Full table f s p L j0) (hle : ∀ (i e : Nat), matchAt table[i]!.1 f s p = some e → e ≤ p + L) :
    ∃ j, j < table.size ∧ bestMatch table f s p = some (L, j) ∧ Full table f s p L j ∧
      ∀ i, i < table.size → Full table f s p L i → i ≤ j :=
  bestMatch_last hj0 hfull fun i e _ => hle i e

def fullOn (i : Nat) (w : List Char) : Bool := matchAt Gen.lexTable[i]!.1 (w.length + 1) w 0 == some (utf8Len w)

theorem fullOn_start_run {i : Nat} {st part : List (Nat × Nat)} {skip : Bool}
    (hent : Gen.lexTable[i]! = (.seq (.cls st) (.star (.cls part)), skip)) (c : Char) (t : List Char)
    (hc : inCls st c = true) (ht : ∀ d ∈ t, inCls part d = true) : fullOn i (c :: t) = true := by
  unfold fullOn
  rw [hent, matchAt_start_run st part _ c t 0 (by simp only [List.length_cons]; omega), if_pos hc]
  have : t.takeWhile (inCls part) = t := by
    have := (span_run (inCls part) t [] ht (fun _ _ h => by cases h)).1
    rwa [List.append_nil] at this
  rw [this, utf8Len_cons, Nat.zero_add]
  exact beq_self_eq_true _

end Aidl.Props.LexIdent

-- `tools/props.py` audits the theorem as `Aidl.Props.LexRuns.next_run`, and `LexRuns.lean` refers to it and to its check
-- `runClasses` by these names; they stand here because `next_word` is proved from them

namespace Aidl.Props.LexRuns
open Aidl.Props.LexIdent

def runClasses (cls st : List (Nat × Nat)) : Bool :=
  (List.range Gen.lexTable.size).all fun i =>
    (clsInside cls Gen.lexTable[i]!.1 && !Gen.lexTable[i]!.2) || disjointCls st (firstCls Gen.lexTable[i]!.1)

theorem entry_at_run (cls st : List (Nat × Nat)) (hcert : runClasses cls st = true)
    (i : Nat) (f : Nat) (c : Char) (t rest : List Char) (p : Nat)
    (hc : inCls st c = true) (hout : ∀ d u, rest = d :: u → inCls cls d = false) (hf : (c :: t).length < f) :
    (∀ e, matchAt Gen.lexTable[i]!.1 f (c :: t ++ rest) p = some e → e ≤ p + utf8Len (c :: t)) ∧
    (matchAt Gen.lexTable[i]!.1 f (c :: t ++ rest) p = some (p + utf8Len (c :: t)) ↔ fullOn i (c :: t) = true) ∧
    (fullOn i (c :: t) = true → Gen.lexTable[i]!.2 = false) := by
  have hL : 0 < utf8Len (c :: t) := utf8Len_pos (by simp)
  unfold fullOn
  by_cases hin : (clsInside cls Gen.lexTable[i]!.1 && !Gen.lexTable[i]!.2) = true
  · -- an entry inside the run's characters sees the run alone
    simp only [Bool.and_eq_true, Bool.not_eq_true'] at hin
    rw [matchAt_local _ _ (clsInside_sound cls _ hin.1) f (c :: t) rest p (fun d u h => by simp [hout d u h]),
      LexerFuel.matchAt_fuel _ f ((c :: t).length + 1) (c :: t) 0 hf (Nat.lt_succ_self _)]
    cases hm : matchAt Gen.lexTable[i]!.1 ((c :: t).length + 1) (c :: t) 0 with
    | none => simp
    | some e0 =>
      obtain ⟨w, s', hs, he0⟩ := matchAt_prefix _ _ _ _ _ hm
      have : utf8Len (c :: t) = utf8Len w + utf8Len s' := by rw [hs, utf8Len_append]
      simp only [Option.map_some, Option.some.injEq, beq_iff_eq]
      exact ⟨fun e he => by omega, ⟨fun h => by omega, fun h => by omega⟩, fun _ => hin.2⟩
  · -- the others match nothing non-empty at a start character
    have hE := fun f s p => others_empty _ st hcert hc f s p i (by simpa using hin)
    refine ⟨fun e he => by have := (hE f _ p).eq he; omega, ⟨fun h => ?_, fun h => ?_⟩, fun h => ?_⟩
    · have := (hE f _ p).eq h; omega
    · have := (hE _ _ 0).eq (eq_of_beq h); omega
    · have := (hE _ _ 0).eq (eq_of_beq h); omega

theorem next_run (cls st : List (Nat × Nat)) (hcert : runClasses cls st = true)
    (fuel : Nat) (c : Char) (t rest : List Char) (p : Nat)
    (hc : inCls st c = true) (hout : ∀ d u, rest = d :: u → inCls cls d = false) (hf : (c :: t ++ rest).length ≤ fuel)
    (j0 : Nat) (hj0 : j0 < Gen.lexTable.size) (hfull0 : fullOn j0 (c :: t) = true) :
    ∃ j, j < Gen.lexTable.size ∧ fullOn j (c :: t) = true ∧
      (∀ i, i < Gen.lexTable.size → fullOn i (c :: t) = true → i ≤ j) ∧
      next Gen.lexTable (fuel + 1) (c :: t ++ rest) p
        = .token { start := p, index := j, text := String.ofList (c :: t), stop := p + utf8Len (c :: t) } rest := by
  have hlen : (c :: t).length < fuel + 1 := by
    rw [List.length_append] at hf
    omega
  have hE := fun i => entry_at_run cls st hcert i (fuel + 1) c t rest p hc hout hlen
  obtain ⟨j, hj, hbest, hjfull, hmax⟩ := bestMatch_last hj0 ((hE j0).2.1.mpr hfull0) (fun i e _ => (hE i).1 e)
  have hjf := (hE j).2.1.mp hjfull
  exact ⟨j, hj, hjf, fun i hi hfu => hmax i hi ((hE i).2.1.mpr hfu), next_token_of (by simp) hbest ((hE j).2.2 hjf)⟩

end Aidl.Props.LexRuns

namespace Aidl.Props.LexIdent

def identIdx : Nat := Gen.lexTable.toList.idxOf (identRe, false)

theorem identIdx_entry : identIdx < Gen.lexTable.size ∧ Gen.lexTable[identIdx]! = (identRe, false) := entry_at_idxOf ident_entry

/-- `LexRuns.runClasses identPartCls identStartCls`, written out: the kernel evaluates this closed term, and `next_word`
    hands it to `next_run` by definitional equality -/
def wordClasses : Bool :=
  (List.range Gen.lexTable.size).all fun i =>
    (clsInside identPartCls Gen.lexTable[i]!.1 && !Gen.lexTable[i]!.2) || disjointCls identStartCls (firstCls Gen.lexTable[i]!.1)

theorem wordClasses_ok : wordClasses = true := by decide +kernel

theorem next_word (fuel : Nat) (c : Char) (t rest : List Char) (p : Nat)
    (hc : inCls identStartCls c = true) (ht : ∀ d ∈ t, isIdentPart d = true)
    (hout : ∀ d u, rest = d :: u → isIdentPart d = false) (hf : (c :: t ++ rest).length ≤ fuel) :
    ∃ j, j < Gen.lexTable.size ∧ fullOn j (c :: t) = true ∧
      (∀ i, i < Gen.lexTable.size → fullOn i (c :: t) = true → i ≤ j) ∧
      next Gen.lexTable (fuel + 1) (c :: t ++ rest) p
        = .token { start := p, index := j, text := String.ofList (c :: t), stop := p + utf8Len (c :: t) } rest :=
  LexRuns.next_run identPartCls identStartCls wordClasses_ok fuel c t rest p hc hout hf identIdx identIdx_entry.1
    (fullOn_start_run identIdx_entry.2 c t hc ht)

def wordEntry (w : String) : Option Nat :=
  ((List.range Gen.lexTable.size).filter (fun i => fullOn i w.toList)).getLast?

example : wordEntry "interface" = (Gen.lexTable.toList.idxOf (Re.seqs ("interface".toList.map Re.chr), false)) := by decide +kernel
example : wordEntry "interfaces" = some identIdx := by decide +kernel
example : wordEntry "in" ≠ some identIdx ∧ wordEntry "in" = wordEntry "inout" ∧ wordEntry "in" = wordEntry "out" := by decide +kernel
example : wordEntry "int" ≠ some identIdx ∧ wordEntry "int" = wordEntry "byte" ∧ wordEntry "into" = some identIdx := by decide +kernel

end Aidl.Props.LexIdent
