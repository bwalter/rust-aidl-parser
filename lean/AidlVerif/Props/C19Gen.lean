import AidlVerif.Props.C19
import AidlVerif.Gen.SerdeSpec

/-!
# C19 — certificate over the schema regenerated from `/repo/src/ast.rs`
-/

namespace Aidl.Props.C19
open Aidl.Serde

/-- **every `skip_serializing_if` of ast.rs comes with a `default` that is the value its predicate
    recognises, and field names are distinct** — re-checked by the kernel against the regenerated
    schema on every run -/
theorem attrs_consistent : Aidl.Gen.schema.consistent = true := by decide

theorem roundtrip_gen (v : V) (h : V.wf Aidl.Gen.schema v = true) :
    de Aidl.Gen.schema (ser Aidl.Gen.schema v) = some v :=
  roundtrip Aidl.Gen.schema attrs_consistent v h

end Aidl.Props.C19
