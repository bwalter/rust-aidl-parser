import AidlVerif.Props.TypedCertA
import AidlVerif.Props.TypedCertB
import AidlVerif.Props.ParseTotal
import AidlVerif.Props.ParseSound

/-!
C01 / C03, parse stage, for EVERY text: only the `fuelOut` stop remains, and a result without a tree carries an Error.

`addContent_stops2` strengthens `ParseTotal.addContent_stops`: the stops of kind `shape`, `table`,
`lexical` and `acceptShape` are excluded as well, by type checking the regenerated action table
against the Rust signatures (`actions_typed`, `tables_typed`: kernel evaluation) and the typing theorem
of the hand-written actions (`labelSigs_ok`). `lexical` is the `unreachable!()` of `Direction`: the type `dtok` (a
token whose text is `in`, `out` or `inout`) is given to the DIRECTION terminal — justified by the
language of its lexer entry (`LexerLang.next_token_lang`, `dirEntryOk`) — and followed by the
translator through `DIRECTION?` into `Direction`'s action; the checker verifies that flow.
-/

namespace Aidl.Props.ParseTyped
open Aidl Aidl.Lr Aidl.Actions Aidl.Lexer
open Aidl.Props.LrSafe Aidl.Props.LrTyped Aidl.Props.Typed Aidl.Props.ParseTotal Aidl.Props.LrInv

def Allowed2 : Stop → Prop
  | .fuelOut => True
  | _ => False

theorem finishE_typed (env : Env) (id : String) (s : St) (o : Outcome) (ho : EndOk s o) :
    match finishE env id s o with
    | .ok r => (r.ast = none → hasError r.diags) ∧ ∀ a, r.ast = some a → ItemWF a.item
    | .error st => st ≠ .acceptShape ∧ ∀ p, st = .action p → OkKind p := by
  unfold finishE
  cases o with
  | panic m => exact ho.elim
  | actionPanic p => exact ⟨(by intro h; cases h), (by intro q hq; cases hq; exact ho)⟩
  | fuelOut => exact ⟨(by intro h; cases h), (by intro q hq; cases hq)⟩
  | accept v =>
    rcases (hasTy_optNS _ _ v).mp ho.1 with ⟨rfl, he⟩ | ⟨w, rfl, hw⟩
    · exact ⟨fun _ => he, fun a h => (by cases h)⟩
    · obtain ⟨a, rfl, ha⟩ := (hasTy_aidl _ w).mp hw
      refine ⟨fun h => (by cases h), fun a' h => ?_⟩
      cases h
      exact ha
  | error e =>
    dsimp only
    have := pur_fromParseError (env := env) e s.diags
    revert this
    cases (ReaderT.run (fromParseError e) env).run s.diags with
    | error m => exact fun hm => ⟨(by intro h; cases h), (by intro q hq; cases hq; exact hm)⟩
    | ok x =>
      obtain ⟨d, ds'⟩ := x
      rintro ⟨_, hk⟩
      exact ⟨fun _ => ⟨d, List.mem_append_right _ (List.mem_singleton.mpr rfl), hk⟩, fun a h => (by cases h)⟩

theorem kind_cases (k : PanicKind) (h1 : k ≠ .bounds) (h2 : k ≠ .shape) (h3 : k ≠ .table) (h4 : k ≠ .lexical) : False := by
  cases k <;> simp_all

theorem addContent_typed_gen (T : Tables) (C : Cert) (TT : TyTables) (hC : C.ok T = true)
    (G : TyFacts T TT) (env : Env) (id text : String) (hE : EnvOk env text.toList) :
    match addContentE T env id text with
    | .ok r => (r.ast = none → hasError r.diags) ∧ ∀ a, r.ast = some a → ItemWF a.item
    | .error st => Allowed2 st := by
  unfold addContentE
  have F := certFacts T C hC
  have hg := run_good T C hC env text hE (parseFuel text)
  have h2 := parse_end_ok T C TT env F G text.toList (parseFuel text)
  have h3 := finishE_typed env id _ _ h2
  have h4 := finishE_allowed hE id _ _ hg.1 hg.2
  revert h3 h4
  cases finishE env id (parseLoop T env { input := text.toList } (parseFuel text)).1
      (parseLoop T env { input := text.toList } (parseFuel text)).2 with
  | ok r => exact fun h3 _ => h3
  | error st =>
    intro h3 h4
    have h4' := h4 st rfl
    cases st with
    | driver m => exact h4'
    | action p => exact kind_cases p.kind h4' (h3.2 p rfl).1 (h3.2 p rfl).2.1 (h3.2 p rfl).2.2
    | fuelOut => trivial
    | acceptShape => exact h3.1 rfl

theorem tyFacts_run : TyFacts Driver.Parse.tables tt := tyFacts Driver.Parse.tables tt actions_typed tables_typed rfl

/-- **For every text** (tables and certificates of this run): `add_content` returns, or stops with
    `fuelOut` — nothing else (and `ParseTerm.addContent_total` excludes `fuelOut`). -/
theorem addContent_stops2 (env : Env) (id text : String) (hE : EnvOk env text.toList) (st : Stop)
    (h : addContentE Driver.Parse.tables env id text = .error st) : Allowed2 st := by
  have := addContent_typed_gen Driver.Parse.tables cert tt cert_ok tyFacts_run env id text hE
  rw [h] at this
  exact this

/-- **Failure is never silent (C03), for every text**: a result without a tree holds an Error. -/
theorem never_silent (env : Env) (id text : String) (hE : EnvOk env text.toList) (r : FileResult)
    (h : addContentE Driver.Parse.tables env id text = .ok r) (hnone : r.ast = none) : hasError r.diags := by
  have := addContent_typed_gen Driver.Parse.tables cert tt cert_ok tyFacts_run env id text hE
  rw [h] at this
  exact this.1 hnone

/-- **For every text**: the generic types of a returned tree have the arities validation relies on
    (an array has its element, a list at most one parameter, a map none or two) — at every depth. -/
theorem tree_arities (env : Env) (id text : String) (hE : EnvOk env text.toList) (r : FileResult) (a : AidlFile)
    (h : addContentE Driver.Parse.tables env id text = .ok r) (ha : r.ast = some a) : ItemWF a.item := by
  have := addContent_typed_gen Driver.Parse.tables cert tt cert_ok tyFacts_run env id text hE
  rw [h] at this
  exact this.2 a ha

theorem clean_run_gen (T : Tables) (C : Cert) (TT : TyTables) (hC : C.ok T = true) (G : TyFacts T TT)
    (env : Env) (id text : String) (r : FileResult)
    (h : addContentE T env id text = .ok r) (ht : r.ast.isSome = true) (hno : ¬ hasError r.diags) :
    ∃ v, (parseLoop T env { input := text.toList } (parseFuel text)).2 = .accept v
      ∧ (parseLoop T env { input := text.toList } (parseFuel text)).1.recovered = false := by
  obtain ⟨a, ha⟩ := Option.isSome_iff_exists.mp ht
  obtain ⟨hv, hd⟩ := LrDriver.finishE_tree env h ha
  have h2 := parse_end_ok T C TT env (certFacts T C hC) G text.toList (parseFuel text)
  rw [hv] at h2
  refine ⟨_, hv, ?_⟩
  cases hr : (parseLoop T env { input := text.toList } (parseFuel text)).1.recovered with
  | false => rfl
  | true => exact absurd (hd ▸ h2.2 hr) hno

theorem accepted_clean_derives_gen (T : Tables) (C : Cert) (TT : TyTables) (hC : C.ok T = true) (G : TyFacts T TT)
    (hcols : LrSound.ColsOk T) (env : Env) (id text : String) (r : FileResult)
    (h : addContentE T env id text = .ok r) (ht : r.ast.isSome = true) (hno : ¬ hasError r.diags) :
    LrSound.Derives T (parseLoop T env { input := text.toList } (parseFuel text)).1.hist := by
  obtain ⟨v, hv, hrec⟩ := clean_run_gen T C TT hC G env id text r h ht hno
  exact LrSound.accepted_derives T C env (certFacts T C hC) hcols text.toList (parseFuel text) v hv hrec

/-- **Syntax verdicts are sound with respect to the grammar (C03), for every text**: when the model's
    `add_content` returns a tree and no Error diagnostic, the sequence of tokens the driver shifted is
    derivable from the accepting production of the grammar extracted from the generated parser —
    error recovery cannot have run, because every production over `error` reports an Error. -/
theorem accepted_clean_derives (env : Env) (id text : String) (r : FileResult)
    (h : addContentE Driver.Parse.tables env id text = .ok r) (ht : r.ast.isSome = true) (hno : ¬ hasError r.diags) :
    LrSound.Derives Driver.Parse.tables
      (parseLoop Driver.Parse.tables env { input := text.toList } (parseFuel text)).1.hist :=
  accepted_clean_derives_gen Driver.Parse.tables cert tt cert_ok tyFacts_run ParseSound.colsOk_run env id text r h ht hno

end Aidl.Props.ParseTyped
