import AidlVerif.Props.LrPot
import AidlVerif.Props.LrSafe

/-!
The LR driver terminates within the model's step bound, for every input, given checked certificates.
`Pot.ok` (evaluated by the kernel on the regenerated tables, `LrTermCert`) gives a
potential `phi = Σ w(stack) + r(top)` that every reduction decreases; a shift or an
error recovery raises it by at most `wMax + rMax`. `accepts` — the simulation `error_recovery` runs
before it resumes — predicts the real driver (`accepts_sim`, `accepts_sim_eof`), so after
a recovery the lookahead is consumed (or the parse ends) without a second recovery. Together with
"every token consumes a character" (`LexerProgress.next_progress`) the nested loops of the driver
never reach the `fuelOut` outcome when started with `parseFuel`.
-/

namespace Aidl.Props.LrTerm
open Aidl Aidl.Lr Aidl.Actions Aidl.Lexer Aidl.Props.LrSafe Aidl.Props.LrDriver

variable (T : Tables) (C : Cert) (P : Pot)

structure PotFacts : Prop where
  next : ∀ q x t, C.hasEdge q x t = true → (P.next q).lookup x = some t
  info : ∀ p prod, T.prods[p]? = some prod →
    P.info p = some (prod.rhsIds, prod.nt, prod.accept) ∧ p ∈ P.prodsOf prod.nt
  edge : ∀ q x g, C.hasEdge q x g = true → P.edgePotOK T q (x, g) = true
  eof : ∀ t, eofActionAt T t ≤ 0
  fuel : 2 * (P.wMax + P.rMax) + 2 ≤ 64    -- 64: the steps per character of `Lr.parseFuel`

theorem hasEdge_row {q x t : Nat} (h : C.hasEdge q x t = true) : ∃ row, C.succ[q]? = some row ∧ (x, t) ∈ row := by
  unfold Cert.hasEdge Cert.succOf at h
  cases hr : C.succ[q]? with
  | none => simp [hr] at h
  | some row => exact ⟨row, rfl, by simpa [hr] using h⟩

theorem potFacts (h : P.ok T C = true) : PotFacts T C P := by
  unfold Pot.ok at h
  simp only [Bool.and_eq_true] at h
  obtain ⟨⟨⟨⟨hedges, hnext⟩, hinfo⟩, heof⟩, hfuel⟩ := h
  refine ⟨?_, ?_, ?_, ?_, ?_⟩
  · intro q x t he
    obtain ⟨row, h1, h2⟩ := hasEdge_row C he
    have := List.all_eq_true.mp (Checks.all_zipIdx hnext h1) (x, t) h2
    simpa using this
  · intro p prod hp
    have := Checks.all_zipIdx hinfo hp
    simpa using this
  · intro q x g he
    obtain ⟨row, h1, h2⟩ := hasEdge_row C he
    exact List.all_eq_true.mp (Checks.all_zipIdx hedges h1) (x, g) h2
  · intro t
    unfold eofActionAt
    cases he : T.eof[t]? with
    | none => simp
    | some a => simpa using List.all_eq_true.mp heof a (Array.mem_toList_iff.mpr (Array.mem_of_getElem? he))
  · unfold Pot.fuelOK at hfuel
    simpa using hfuel

theorem wOf_le (s : Nat) : P.wOf s ≤ P.wMax := Nat.min_le_right _ _
theorem rOf_le (s : Nat) : P.rOf s ≤ P.rMax := Nat.min_le_right _ _

theorem wSum_cons (t : Nat) (st : List Nat) : P.wSum (t :: st) = P.wOf t + P.wSum st := by
  simp [Pot.wSum]

theorem wSum_nil : P.wSum [] = 0 := rfl

theorem wSum_take_drop (k : Nat) (st : List Nat) : P.wSum st = P.wSum (st.take k) + P.wSum (st.drop k) := by
  unfold Pot.wSum
  rw [← List.sum_append, ← List.map_append, List.take_append_drop]

theorem wSum_drop_le (k : Nat) (st : List Nat) : P.wSum (st.drop k) ≤ P.wSum st := by
  rw [wSum_take_drop P k st]; omega

theorem phi_cons (t : Nat) (st : List Nat) : P.phi (t :: st) = P.wOf t + P.wSum st + P.rOf t := by
  simp [Pot.phi, wSum_cons]

theorem fwd_append (q : Nat) (xs : List Nat) (x : Nat) (c : Nat) :
    P.fwd q (xs ++ [x]) c =
      match P.fwd q xs c with
      | none => none
      | some (s, c') =>
        match (P.next s).lookup x with
        | none => none
        | some s' => some (s', c' + P.wOf s') := by
  induction xs generalizing q c with
  | nil =>
    simp only [List.nil_append, Pot.fwd]
    cases (P.next q).lookup x <;> rfl
  | cons y ys ih =>
    simp only [List.cons_append, Pot.fwd]
    cases (P.next q).lookup y with
    | none => rfl
    | some s => exact ih s _

/-- the stack above `q` is the path `fwd` follows -/
theorem fwd_sound (PF : PotFacts T C P) :
    ∀ (k : Nat) (t : Nat) (st : List Nat) (sy : List Sym), Chain C (t :: st) sy → k ≤ sy.length → ∀ c,
      ∃ q rest, (t :: st).drop k = q :: rest ∧
        P.fwd q (((sy.take k).reverse).map (·.id)) c = some (t, c + P.wSum ((t :: st).take k)) := by
  intro k
  induction k with
  | zero => intro t st sy _ _ c; exact ⟨t, st, rfl, by simp [Pot.fwd, wSum_nil]⟩
  | succ k ih =>
    intro t st sy hc hk c
    cases hc with
    | base => simp at hk
    | step hc' he =>
      rename_i q' qs X syms
      obtain ⟨q, rest, h1, h2⟩ := ih q' qs syms hc' (by simpa using hk) c
      refine ⟨q, rest, by simpa using h1, ?_⟩
      have hids : (((X :: syms).take (k + 1)).reverse).map (·.id) = ((syms.take k).reverse).map (·.id) ++ [X.id] := by
        simp
      rw [hids, fwd_append, h2]
      dsimp only
      rw [PF.next q' X.id t he]
      dsimp only
      rw [List.take_succ_cons, wSum_cons]
      congr 2
      omega

abbrev NoOut (_ : St) (o : Outcome) : Prop := o ≠ .fuelOut

theorem noOut_look {α : Type} {Q : St → α → Prop} {r : Step α} (la : La) (h : Holds Q NoOut r) :
    Holds Q NoOut (r.mapEnd (endOutcome la)) :=
  (h.imp (fun _ _ hq => hq) fun _ _ ho =>
    endOutcome_imp (E := (· ≠ .fuelOut)) la ho fun _ _ _ _ _ => nofun).mapEnd

/-- a reduction seen on the state stack alone (what `accepts` simulates) -/
theorem stack_reduce (F : CertFacts T C) (PF : PotFacts T C P) (t : Nat) (st : List Nat) (sy : List Sym) (p : Nat)
    (hc : Chain C (t :: st) sy) (hred : C.redOK T t p = true) :
    ∃ prod, T.prods[p]? = some prod ∧ (prod.accept = false →
      ∃ sy', Chain C (gotoOf T (((t :: st).drop prod.pops).headD 0) prod.nt :: (t :: st).drop prod.pops) sy'
        ∧ P.phi (gotoOf T (((t :: st).drop prod.pops).headD 0) prod.nt :: (t :: st).drop prod.pops) + 1 ≤ P.phi (t :: st)) := by
  obtain ⟨prod, q0, r, hp, _, hlen2, h1, hids, h3, hq0⟩ := redOK_spec T C F hc hred
  refine ⟨prod, hp, fun hacc => ?_⟩
  simp only [hacc, Bool.false_eq_true, if_false] at hq0
  have hdropc := hc.drop prod.rhsIds.length h1
  rw [hlen2, h3]
  rw [h3] at hdropc
  simp only [List.headD_cons]
  let X : Sym := { start := 0, id := T.ncols + prod.nt, name := "", val := .none_, stop := 0 }
  refine ⟨X :: sy.drop prod.rhsIds.length, Chain.step hdropc hq0, ?_⟩
  -- `fwd` from `q0` over the right-hand side arrives at `t` with the weight of the popped states …
  obtain ⟨q, rest, hdrop, hfwd⟩ := fwd_sound T C P PF prod.rhsIds.length t st sy hc h1 0
  cases h3.symm.trans hdrop
  rw [hids] at hfwd
  -- … and `edgePotOK` of the transition `q0 --A--> goto` has compared exactly that with the weight and rank of `goto`
  have hpe := PF.edge q0 _ _ hq0
  obtain ⟨hinfo, hmem⟩ := PF.info p prod hp
  unfold Pot.edgePotOK at hpe
  have hnlt : ¬ (T.ncols + prod.nt < T.ncols) := by omega
  simp only [hnlt, if_false, Nat.add_sub_cancel_left] at hpe
  have := (List.all_eq_true.mp hpe) p hmem
  simp only [hinfo, hacc, Bool.false_or, hfwd, PF.next q0 _ _ hq0, decide_eq_true_eq] at this
  have hsum := wSum_take_drop P prod.rhsIds.length (t :: st)
  rw [h3] at hsum
  rw [phi_cons]
  unfold Pot.phi
  simp only [List.headD_cons]
  omega

theorem reduce_term (F : CertFacts T C) (PF : PotFacts T C P) (env : Env) (s : St) (p : Nat) (la : Option Nat)
    (hc : Chain C s.states s.syms) (hred : C.redOK T (topState s) p = true) :
    Holds (fun s' _ => Chain C s'.states s'.syms ∧ P.phi s'.states + 1 ≤ P.phi s.states ∧ s'.input = s.input
        ∧ ∃ prod, T.prods[p]? = some prod ∧ prod.accept = false
          ∧ s'.states = gotoOf T ((s.states.drop prod.pops).headD 0) prod.nt :: s.states.drop prod.pops)
      NoOut (ofRed (reduce T env s p la)) := by
  obtain ⟨st, hst⟩ := hc.top
  obtain ⟨prod, hp, _, hr⟩ := reduce_chain T C F env s p la hc hred
  obtain ⟨prod', hp', hstep⟩ := stack_reduce T C P F PF (topState s) st s.syms p (hst ▸ hc) hred
  cases hp.symm.trans hp'
  generalize reduce T env s p la = res at hr ⊢
  cases hr with
  | stop _ => exact nofun
  | accept _ _ _ => exact nofun
  | goOn g _ hacc hg hc' =>
    obtain ⟨_, _, hphi⟩ := hstep hacc
    subst hg
    refine And.intro hc' ⟨?_, rfl, prod, hp, hacc, rfl⟩
    show P.phi (gotoOf T ((s.states.drop prod.pops).headD 0) prod.nt :: s.states.drop prod.pops) + 1 ≤ P.phi s.states
    rw [hst]
    exact hphi

/-- `reduce_term` with `Holds` written out, for a caller that has the top state in hand -/
theorem reduce_pot (F : CertFacts T C) (PF : PotFacts T C P) (env : Env) (s s' : St) (t : Nat) (st : List Nat)
    (p : Nat) (la : Option Nat) (hst : s.states = t :: st) (hc : Chain C s.states s.syms)
    (hred : C.redOK T t p = true) (h : reduce T env s p la = (s', none)) :
    Chain C s'.states s'.syms ∧ P.phi s'.states + 1 ≤ P.phi s.states ∧ s'.input = s.input
    ∧ ∃ prod, T.prods[p]? = some prod ∧ prod.accept = false
        ∧ s'.states = gotoOf T ((s.states.drop prod.pops).headD 0) prod.nt :: s.states.drop prod.pops := by
  have ht := topState_of_cons hst
  have := reduce_term T C P F PF env s p la hc (ht ▸ hred)
  rw [h] at this
  exact this

/-- every token consumes at least one character (`LexerProgress.next_progress` for the table of this run) -/
def LexProg : Prop :=
  ∀ (fuel : Nat) (s : List Char) (p : Nat) (t : Token) (rest : List Char),
    Lexer.next T.lex fuel s p = .token t rest → rest.length < s.length

theorem nextToken_facts (hL : LexProg T) (s : St) :
    Holds (fun s' la => s'.states = s.states ∧ s'.syms = s.syms ∧ s'.input.length ≤ s.input.length
        ∧ (la.isSome = true → s'.input.length < s.input.length)) NoOut (ofNext (nextToken T s)) := by
  unfold nextToken
  cases hn : Lexer.next T.lex (s.input.length + 1) s.input s.pos with
  | eof => exact And.intro rfl ⟨rfl, Nat.le_refl _, nofun⟩
  | invalid l => exact nofun
  | token t rest =>
    dsimp only
    have := hL _ _ _ _ _ hn
    cases T.tokToCol.lookup t.index with
    | some col => exact And.intro rfl ⟨rfl, Nat.le_of_lt this, fun _ => this⟩
    | none => exact nofun

theorem phi_cons_le (t : Nat) (l : List Nat) : P.phi (t :: l) ≤ P.wSum l + (P.wMax + P.rMax) := by
  rw [phi_cons]
  have := wOf_le P t
  have := rOf_le P t
  omega

theorem phi_push (t : Nat) (l : List Nat) : P.phi (t :: l) ≤ P.phi l + (P.wMax + P.rMax) :=
  Nat.le_trans (phi_cons_le P t l) (Nat.add_le_add_right (Nat.le_add_right _ _) _)

def Within (b n : Nat) (s : St) : Prop := Chain C s.states s.syms ∧ P.phi s.states ≤ b ∧ s.input.length ≤ n

theorem holds_within {α : Type} {b b' n n' : Nat} {r : Step α} (h : Holds (fun s _ => Within C P b n s) NoOut r)
    (hb : b ≤ b') (hn : n ≤ n') : Holds (fun s _ => Within C P b' n' s) NoOut r :=
  h.imp (fun _ _ hx => ⟨hx.1, Nat.le_trans hx.2.1 hb, Nat.le_trans hx.2.2 hn⟩) fun _ _ ho => ho

variable (env : Env)

theorem reduceOnError_term (F : CertFacts T C) (PF : PotFacts T C P) (la : Option Token) :
    ∀ (fuel : Nat) (s : St), Chain C s.states s.syms → P.phi s.states < fuel →
      Holds (fun s' _ => Within C P (P.phi s.states) s.input.length s') NoOut (ofRed (reduceOnError T env la s fuel)) := by
  intro fuel
  induction fuel with
  | zero => intro s _ h; omega
  | succ f ih =>
    intro s hc hphi
    rw [reduceOnError_succ]
    cases hr : asReduce (errorAction T (topState s)) with
    | none => exact And.intro hc ⟨Nat.le_refl _, Nat.le_refl _⟩
    | some r =>
      refine (reduce_term T C P F PF env s r _ hc (F.red _ _ r hr)).bind fun s' _ h' => ?_
      obtain ⟨hc', hphi', hin, _⟩ := h'
      exact holds_within C P (ih s' hc' (by omega)) (by omega) (Nat.le_of_eq (congrArg _ hin))

/-- every dropped token shortens the rest of the input -/
theorem findState_term (hL : LexProg T) (error : ParseErr) (statesLen : Nat) :
    ∀ (fuel : Nat) (s : St) (la : Option Token) (col : Option Nat) (dropped : List Token),
      s.input.length + (if la.isSome then 2 else 1) ≤ fuel →
      Holds (fun s' (x : Found) => s'.states = s.states ∧ s'.syms = s.syms ∧ s'.input.length ≤ s.input.length
          ∧ errorCandidate T statesLen s' x.2.2.1 = some x.1) NoOut
        (ofFind (findState T error statesLen s la col dropped fuel)) := by
  intro fuel
  induction fuel with
  | zero => intro s la col dropped h; split at h <;> omega
  | succ f ih =>
    intro s la col dropped hf
    rw [findState_succ]
    cases hcand : errorCandidate T statesLen s col with
    | some top => exact And.intro rfl ⟨rfl, Nat.le_refl _, hcand⟩
    | none =>
      cases la with
      | none => exact nofun
      | some l =>
        simp only [Option.isSome_some, if_true] at hf
        refine (nextToken_facts T hL s).bind fun s' la' h' => ?_
        obtain ⟨hst, hsy, hle, hlt⟩ := h'
        refine (ih s' _ _ _ ?_).imp (fun s'' x hx => ⟨hx.1.trans hst, hx.2.1.trans hsy, Nat.le_trans hx.2.2.1 hle, hx.2.2.2⟩)
          fun _ _ ho => ho
        cases la' with
        | none =>
          simp only [Option.map_none, Option.isSome_none, Bool.false_eq_true, if_false]
          omega
        | some x =>
          have := hlt rfl
          simp only [Option.map_some, Option.isSome_some, if_true]
          omega

def InnerOk (s : St) (bound : Nat) : St × Sum Unit Outcome → Prop
  | (s', .inl ()) => Chain C s'.states s'.syms ∧ P.phi s'.states ≤ bound ∧ s'.input.length ≤ s.input.length
  | (_, .inr o) => o ≠ .fuelOut

theorem innerOk_iff (s : St) (bound : Nat) (r : Step Unit) :
    InnerOk C P s bound r ↔ Holds (fun s' _ => Within C P bound s.input.length s') NoOut r := by
  obtain ⟨s', x⟩ := r
  cases x with
  | inl u => exact Iff.rfl
  | inr o => exact Iff.rfl

theorem accepts_loop_step {col : Option Nat} {states : List Nat} {n : Nat} (h : accepts.loop T col states (n + 1) = some true) :
    LrComplete.laAction T (states.headD 0) col ≠ 0 ∧ ∀ r prod, asReduce (LrComplete.laAction T (states.headD 0) col) = some r →
      T.prods[r]? = some prod → prod.accept = false →
      accepts.loop T col (gotoOf T ((states.drop prod.pops).headD 0) prod.nt :: states.drop prod.pops) n = some true := by
  rw [accepts_loop_succ] at h
  by_cases ha0 : LrComplete.laAction T (states.headD 0) col = 0
  · rw [if_pos ha0] at h
    cases h
  · rw [if_neg ha0] at h
    refine ⟨ha0, fun r prod hr hp hacc => ?_⟩
    rw [hr] at h
    dsimp only at h
    rw [hp] at h
    dsimp only at h
    rw [hacc] at h
    exact h

theorem accepts_sim (F : CertFacts T C) (PF : PotFacts T C P) (la : Token) (c : Nat) :
    ∀ (n : Nat) (states : List Nat), accepts.loop T (some c) states n = some true →
      ∀ (fuel : Nat) (s : St), s.states = states → Chain C s.states s.syms → P.phi s.states < fuel →
        InnerOk C P s (P.phi s.states + (P.wMax + P.rMax)) (parseInner T env s la c fuel) := by
  intro n
  induction n with
  | zero => intro states h; simp [accepts.loop] at h
  | succ n ih =>
    intro states h fuel s hs hc hphi
    subst hs
    cases fuel with
    | zero => omega
    | succ f =>
      obtain ⟨ha0, hstep⟩ := accepts_loop_step T h
      rw [innerOk_iff, parseInner_succ]
      cases hsh : asShift (actionAt T (topState s) c) with
      | some target => exact And.intro (chain_shifted T C F hc hsh la) ⟨phi_push P target s.states, Nat.le_refl _⟩
      | none =>
        cases hr : asReduce (actionAt T (topState s) c) with
        | none =>
          rcases shift_or_reduce (show actionAt T (topState s) c ≠ 0 from ha0) with h' | h'
          · rw [hsh] at h'; cases h'
          · rw [hr] at h'; cases h'
        | some r =>
          refine (noOut_look (some (la, c)) (reduce_term T C P F PF env s r _ hc (F.red _ c r hr))).bind fun s' _ h' => ?_
          obtain ⟨hc', hphi', hin, prod, hp, hacc, hstates⟩ := h'
          have := ih _ (hstep r prod hr hp hacc) f s' hstates hc' (by omega)
          exact holds_within C P ((innerOk_iff C P _ _ _).mp this) (by omega) (Nat.le_of_eq (congrArg _ hin))

theorem accepts_sim_eof (F : CertFacts T C) (PF : PotFacts T C P) :
    ∀ (n : Nat) (states : List Nat), accepts.loop T none states n = some true →
      ∀ (fuel : Nat) (s : St), s.states = states → Chain C s.states s.syms → P.phi s.states < fuel →
        (parseEof T env s fuel).2 ≠ .fuelOut := by
  intro n
  induction n with
  | zero => intro states h; simp [accepts.loop] at h
  | succ n ih =>
    intro states h fuel s hs hc hphi
    subst hs
    cases fuel with
    | zero => omega
    | succ f =>
      obtain ⟨ha0, hstep⟩ := accepts_loop_step T h
      show Holds (α := Empty) (fun _ _ => True) NoOut (ofEnd (parseEof T env s (f + 1)))
      rw [parseEof_succ]
      cases hr : asReduce (eofActionAt T (topState s)) with
      | none =>
        exfalso
        have := PF.eof (topState s)
        have ha0' : eofActionAt T (topState s) ≠ 0 := ha0
        unfold asReduce at hr
        split at hr
        · cases hr
        · omega
      | some r =>
        refine (reduce_term T C P F PF env s r none hc (F.redEof _ r hr)).bind fun s' _ h' => ?_
        obtain ⟨hc', hphi', _, prod, hp, hacc, hstates⟩ := h'
        exact ih _ (hstep r prod hr hp hacc) f s' hstates hc' (by omega)

theorem errorRecovery_term (F : CertFacts T C) (PF : PotFacts T C P) (hL : LexProg T)
    (s : St) (la : Option Token) (col : Option Nat) (fuel : Nat)
    (hc : Chain C s.states s.syms) (hphi : P.phi s.states < fuel) (hin : s.input.length + 2 ≤ fuel) :
    Holds (fun s2 la' => Within C P (P.phi s.states + (P.wMax + P.rMax)) s.input.length s2
        ∧ ∃ n, accepts.loop T (la'.map (·.2)) s2.states n = some true) NoOut
      (ofNext (errorRecovery T env s la col fuel)) := by
  rw [errorRecovery_eq]
  refine (reduceOnError_term T C P env F PF la fuel s hc hphi).bind fun s1 _ h1 => ?_
  obtain ⟨hc1, hphi1, hin1⟩ := h1
  refine (findState_term T hL _ _ fuel s1 la col [] (by split <;> omega)).bind fun s1' x hx => ?_
  obtain ⟨top, la', col', dropped'⟩ := x
  obtain ⟨hst, hsy, hlen, hcand⟩ := hx
  dsimp only at hcand ⊢
  obtain ⟨htop, errState, n, hsh, hacc⟩ := errorCandidate_accepts T hcand
  rw [← hst] at htop hsh hacc hphi1 hc1 ⊢
  rw [← hsy] at hc1
  rw [recoverPush_eq T _ _ _ _ _ _ _ hsh]
  have hw : Within C P (P.phi s.states + (P.wMax + P.rMax)) s.input.length
      (pushed T (unrecognized T s la) s1' top la' dropped' errState) := by
    refine ⟨(chain_pushed T C F hc1 htop hsh _ la' dropped').2, ?_, Nat.le_trans hlen hin1⟩
    show P.phi (errState :: s1'.states.drop (s1'.states.length - 1 - top)) ≤ _
    have := phi_cons_le P errState (s1'.states.drop (s1'.states.length - 1 - top))
    have := wSum_drop_le P (s1'.states.length - 1 - top) s1'.states
    have : P.wSum s1'.states ≤ P.phi s1'.states := Nat.le_add_right _ _
    omega
  cases la' with
  | some l =>
    cases col' with
    | some c => exact And.intro hw ⟨n, hacc⟩
    | none => exact nofun
  | none =>
    cases col' with
    | some c => exact nofun
    | none => exact And.intro hw ⟨n, hacc⟩

theorem parseEof_term (F : CertFacts T C) (PF : PotFacts T C P) (hL : LexProg T) :
    ∀ (fuel : Nat) (s : St), Chain C s.states s.syms →
      P.phi s.states + (P.wMax + P.rMax) + s.input.length + 2 < fuel →
      (parseEof T env s fuel).2 ≠ .fuelOut := by
  intro fuel
  induction fuel with
  | zero => intro s _ h; omega
  | succ f ih =>
    intro s hc hf
    show Holds (α := Empty) (fun _ _ => True) NoOut (ofEnd (parseEof T env s (f + 1)))
    rw [parseEof_succ]
    cases hr : asReduce (eofActionAt T (topState s)) with
    | some r =>
      refine (reduce_term T C P F PF env s r none hc (F.redEof _ r hr)).bind fun s' _ h' => ?_
      obtain ⟨hc', hphi', hin, _⟩ := h'
      exact ih s' hc' (by rw [hin]; omega)
    | none =>
      refine (errorRecovery_term T C P env F PF hL s none none f hc (by omega) (by omega)).bind fun s2 la' h2 => ?_
      obtain ⟨⟨hc2, hphi2, _⟩, n, hacc⟩ := h2
      cases la' with
      | some _ => exact nofun
      | none => exact accepts_sim_eof T C P env F PF n _ hacc f s2 rfl hc2 (by omega)

theorem parseInner_term (F : CertFacts T C) (PF : PotFacts T C P) (hL : LexProg T) :
    ∀ (fuel : Nat) (s : St) (la : Token) (c : Nat), Chain C s.states s.syms →
      P.phi s.states + (P.wMax + P.rMax) + s.input.length + 2 < fuel →
      Holds (fun s' _ => Within C P (P.phi s.states + 2 * (P.wMax + P.rMax)) s.input.length s') NoOut
        (parseInner T env s la c fuel) := by
  intro fuel
  induction fuel with
  | zero => intro s _ _ _ h; omega
  | succ f ih =>
    intro s la c hc hf
    rw [parseInner_succ]
    cases hsh : asShift (actionAt T (topState s) c) with
    | some target =>
      exact And.intro (chain_shifted T C F hc hsh la) ⟨Nat.le_trans (phi_push P target s.states) (by omega), Nat.le_refl _⟩
    | none =>
      cases hr : asReduce (actionAt T (topState s) c) with
      | some r =>
        refine (noOut_look (some (la, c)) (reduce_term T C P F PF env s r _ hc (F.red _ c r hr))).bind fun s' _ h' => ?_
        obtain ⟨hc', hphi', hin, _⟩ := h'
        exact holds_within C P (ih s' la c hc' (by rw [hin]; omega)) (by omega) (Nat.le_of_eq (congrArg _ hin))
      | none =>
        refine (errorRecovery_term T C P env F PF hL s (some la) (some c) f hc (by omega) (by omega)).bind
          fun s2 la' h2 => ?_
        obtain ⟨⟨hc2, hphi2, hin2⟩, n, hacc⟩ := h2
        cases la' with
        | none => exact accepts_sim_eof T C P env F PF n _ hacc f s2 rfl hc2 (by omega)
        | some x =>
          have := accepts_sim T C P env F PF x.1 x.2 n _ hacc f s2 rfl hc2 (by omega)
          exact holds_within C P ((innerOk_iff C P _ _ _).mp this) (by omega) hin2

theorem parseLoop_term (F : CertFacts T C) (PF : PotFacts T C P) (hL : LexProg T) :
    ∀ (fuel : Nat) (s : St), Chain C s.states s.syms →
      P.phi s.states + (2 * (P.wMax + P.rMax) + 2) * s.input.length + (P.wMax + P.rMax) + 3 < fuel →
      (parseLoop T env s fuel).2 ≠ .fuelOut := by
  intro fuel
  induction fuel with
  | zero => intro s _ h; omega
  | succ f ih =>
    intro s hc hf
    show Holds (α := Empty) (fun _ _ => True) NoOut (ofEnd (parseLoop T env s (f + 1)))
    rw [parseLoop_succ]
    have hge : s.input.length ≤ (2 * (P.wMax + P.rMax) + 2) * s.input.length := by
      have := Nat.mul_le_mul_right s.input.length (show 1 ≤ 2 * (P.wMax + P.rMax) + 2 by omega)
      omega
    refine (nextToken_facts T hL s).bind fun s1 la h1 => ?_
    obtain ⟨hst, hsy, hle, hlt⟩ := h1
    have hc1 : Chain C s1.states s1.syms := by rw [hst, hsy]; exact hc
    have hmono1 := Nat.mul_le_mul_left (2 * (P.wMax + P.rMax) + 2) hle
    cases la with
    | none => exact parseEof_term T C P env F PF hL f s1 hc1 (by rw [hst]; omega)
    | some x =>
      have hstep := Nat.mul_le_mul_left (2 * (P.wMax + P.rMax) + 2) (Nat.succ_le_of_lt (hlt rfl))
      rw [Nat.mul_succ] at hstep
      refine (parseInner_term T C P env F PF hL f s1 x.1 x.2 hc1 (by rw [hst]; omega)).bind fun s2 _ h2 => ?_
      obtain ⟨hc2, hphi2, hin2⟩ := h2
      have hmono := Nat.mul_le_mul_left (2 * (P.wMax + P.rMax) + 2) hin2
      rw [hst] at hphi2
      exact ih s2 hc2 (by omega)

/-- **For every input**: started with `parseFuel` steps, the driver never reaches its step bound -/
theorem parse_term (F : CertFacts T C) (PF : PotFacts T C P) (hL : LexProg T) (text : List Char) :
    (parseLoop T env { input := text } (64 * (text.length + 2) + 1024)).2 ≠ .fuelOut := by
  apply parseLoop_term T C P env F PF hL _ _ Chain.base
  have hf := PF.fuel
  have h0 : P.phi [0] ≤ P.wSum [] + (P.wMax + P.rMax) := phi_cons_le P 0 []
  rw [wSum_nil] at h0
  have := Nat.mul_le_mul_right text.length hf
  show P.phi [0] + (2 * (P.wMax + P.rMax) + 2) * text.length + (P.wMax + P.rMax) + 3 < 64 * (text.length + 2) + 1024
  omega

theorem accepts_total (F : CertFacts T C) (PF : PotFacts T C P) (col : Option Nat) :
    ∀ (n : Nat) (states : List Nat) (sy : List Sym), Chain C states sy → P.phi states < n →
      accepts.loop T col states n ≠ none := by
  intro n
  induction n with
  | zero => intro states sy _ h; omega
  | succ n ih =>
    intro states sy hc hphi
    cases states with
    | nil => have := hc.length; simp at this
    | cons t st =>
      rw [accepts_loop_succ, List.headD_cons]
      split
      · exact nofun
      · cases hr : asReduce (LrComplete.laAction T t col) with
        | none => exact nofun
        | some r =>
          dsimp only
          obtain ⟨prod, hp, hstep⟩ := stack_reduce T C P F PF t st sy r hc (redOK_of_fires T C F (Or.inl hr))
          rw [hp]
          dsimp only
          cases hacc : prod.accept with
          | true => simp
          | false =>
            simp only [Bool.false_eq_true, if_false]
            obtain ⟨sy', hc', hphi'⟩ := hstep hacc
            exact ih _ sy' hc' (by omega)

theorem wSum_le (l : List Nat) : P.wSum l ≤ P.wMax * l.length := by
  induction l with
  | nil => simp [wSum_nil]
  | cons x xs ih =>
    rw [wSum_cons, List.length_cons, Nat.mul_succ]
    have := wOf_le P x
    omega

/-- **the simulation inside `error_recovery` never runs out of its own step bound** (so the model's
    `getD false` on its result hides nothing), provided `wMax ≤ 1` and `wMax + rMax < 1023`: `errorCandidate`
    gives `accepts` the bound `states.length + 1024`, of which `accepts.loop` gets one less, and the
    potential of the truncated stack under `errState` is at most `wMax * states.length + wMax + rMax` -/
theorem errorCandidate_total (F : CertFacts T C) (PF : PotFacts T C P) (hw : P.wMax ≤ 1) (hr : P.wMax + P.rMax < 1023)
    (s : St) (hc : Chain C s.states s.syms) (top : Nat) (col : Option Nat) (errState : Nat)
    (htop : top < s.states.length)
    (hsh : asShift (errorAction T ((s.states.drop (s.states.length - 1 - top)).headD 0)) = some errState) :
    accepts T errState (s.states.drop (s.states.length - 1 - top)) col (s.states.length + 1024) ≠ none := by
  -- only the state stack of the truncated configuration matters: error, lookahead and dropped tokens are dummies
  have hchain := (chain_pushed T C F hc htop hsh (.invalidToken 0) none []).2
  have h1 : s.states.length + 1024 = (s.states.length + 1023) + 1 := by omega
  rw [h1]
  unfold accepts
  dsimp only
  refine accepts_total T C P F PF col _ _ _ hchain ?_
  have := phi_cons_le P errState (s.states.drop (s.states.length - 1 - top))
  have h2 := wSum_le P (s.states.drop (s.states.length - 1 - top))
  have h3 : (s.states.drop (s.states.length - 1 - top)).length ≤ s.states.length := by
    rw [List.length_drop]
    omega
  have h4 := Nat.mul_le_mul_right (s.states.drop (s.states.length - 1 - top)).length hw
  omega

end Aidl.Props.LrTerm
