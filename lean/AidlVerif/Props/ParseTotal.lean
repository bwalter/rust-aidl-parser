import AidlVerif.Props.ActionsSafe
import AidlVerif.Props.LrSafeCert

/-!
C01 / C04, parse stage, for EVERY text: no panic of the LR driver, no out-of-bounds panic, good positions.

`addContent_stops`: with the tables regenerated from the generated parser of this run (whose
stack-shape certificate the kernel has checked, `cert_ok`) and an environment whose line/column
lookup is defined on every character boundary of the text (`EnvOk`), the model's `add_content` either returns a
result or stops for a reason in `Allowed` — and these never include

* a panic of the LR driver (`__symbol_type_mismatch`, stack underflow, a failed `unwrap()`), nor
* a panic of kind `bounds` (`Range::new` off a character boundary or outside the text, a slice of
  `javadoc.rs` — the two defects the property text names).

NOT excluded by this theorem: `fuelOut` (excluded by `ParseTerm.addContent_terminates`), `shape` /
`table` / `acceptShape` (the model's semantic values are untyped) and `lexical` (`unreachable!()` of
`Direction`), all excluded by `ParseTyped.addContent_stops2`; `ParseTerm.addContent_total` puts the
three together. Each of them is an explicit outcome of the model and is compared with the
implementation's outcome on every case of every run.

The same invariant gives the C04 theorems below.
-/

namespace Aidl.Props.ParseTotal
open Aidl Aidl.Lr Aidl.Actions Aidl.Lexer
open Aidl.Props.LrInv Aidl.Props.LrSafe Aidl.Props.ActionsSafe Aidl.Props.LrDriver

def Allowed : Stop → Prop
  | .driver _ => False
  | .action p => p.kind ≠ .bounds
  | .fuelOut => True
  | .acceptShape => True

theorem finishE_allowed {env : Env} {I : List Char} (hE : EnvOk env I) (id : String) (s : St) (o : Outcome)
    (ho : GoodOutcome env I o) (hd : DiagsLc env s.diags) (st : Stop) (h : finishE env id s o = .error st) : Allowed st := by
  cases finishE_finished h with
  | driver m => exact ho.elim
  | action p => exact ho
  | fuelOut => trivial
  | shape v => trivial
  | errStop e m hr =>
    have := safe_fromParseError hE ho s.diags hd
    rw [hr] at this
    exact this

theorem finishE_diags {env : Env} {I : List Char} (hE : EnvOk env I) (id : String) (s : St) (o : Outcome)
    (hg : GoodOS env I s o) (r : FileResult) (h : finishE env id s o = .ok r) : DiagsLc env r.diags := by
  cases finishE_finished h with
  | none => exact hg.2
  | tree a => exact hg.2
  | err e d ds hr =>
    have := safe_fromParseError hE hg.1 s.diags hg.2
    rw [hr] at this
    exact List.forall_mem_append.mpr ⟨this.2, List.forall_mem_singleton.mpr this.1⟩

theorem run_good (T : Tables) (C : Cert) (hC : C.ok T = true) (env : Env) (text : String) (hE : EnvOk env text.toList)
    (fuel : Nat) :
    GoodOS env text.toList (parseLoop T env { input := text.toList } fuel).1 (parseLoop T env { input := text.toList } fuel).2 :=
  parseLoop_inv T C env _ (certFacts T C hC) (actionsSafe T env _ hE) fuel _ (inv_init C env _)

theorem addContent_stops_gen (T : Tables) (C : Cert) (hC : C.ok T = true) (env : Env) (id text : String)
    (hE : EnvOk env text.toList) (st : Stop) (h : addContentE T env id text = .error st) : Allowed st :=
  finishE_allowed hE id _ _ (run_good T C hC env text hE _).1 (run_good T C hC env text hE _).2 st h

theorem addContent_stops (env : Env) (id text : String) (hE : EnvOk env text.toList) (st : Stop)
    (h : addContentE Driver.Parse.tables env id text = .error st) : Allowed st :=
  addContent_stops_gen Driver.Parse.tables cert cert_ok env id text hE st h

theorem addContent_no_driver_no_bounds (env : Env) (id text : String) (hE : EnvOk env text.toList) :
    (∀ m, addContentE Driver.Parse.tables env id text ≠ .error (.driver m)) ∧
    (∀ m, addContentE Driver.Parse.tables env id text ≠ .error (.action ⟨.bounds, m⟩)) :=
  ⟨fun _ h => addContent_stops env id text hE _ h, fun _ h => addContent_stops env id text hE _ h rfl⟩

theorem parse_error_on_boundaries (env : Env) (text : String) (hE : EnvOk env text.toList) (fuel : Nat) (e : ParseErr)
    (h : (parseLoop Driver.Parse.tables env { input := text.toList } fuel).2 = .error e) : GoodErr text.toList e := by
  have ho := (run_good Driver.Parse.tables cert cert_ok env text hE fuel).1
  rw [h] at ho
  exact ho

/-- **Every position stored in a returned tree is good (C04), for every text**: its offset is a
    character boundary of the text and its line and column are what the lookup assigns to that
    offset — for the package, the imports, the item, every member, argument, direction and every
    type node at any depth (`AidlGood`). -/
theorem tree_positions_good_gen (T : Tables) (C : Cert) (hC : C.ok T = true) (env : Env) (id text : String)
    (hE : EnvOk env text.toList) (r : FileResult) (a : AidlFile)
    (h : addContentE T env id text = .ok r) (ha : r.ast = some a) : AidlGood env text.toList a := by
  have ho := (run_good T C hC env text hE (parseFuel text)).1
  rw [(finishE_tree env h ha).1] at ho
  exact ho

theorem tree_positions_good (env : Env) (id text : String) (hE : EnvOk env text.toList) (r : FileResult) (a : AidlFile)
    (h : addContentE Driver.Parse.tables env id text = .ok r) (ha : r.ast = some a) : AidlGood env text.toList a :=
  tree_positions_good_gen Driver.Parse.tables cert cert_ok env id text hE r a h ha

/-- **Every position stored in a diagnostic of the result is one the lookup accepts, with its line and
    column (C04), for every text** — the diagnostics pushed by the error-recovery actions, by the
    transact-code check and the one made from a parse error. -/
theorem diag_positions_good_gen (T : Tables) (C : Cert) (hC : C.ok T = true) (env : Env) (id text : String)
    (hE : EnvOk env text.toList) (r : FileResult) (h : addContentE T env id text = .ok r) : DiagsLc env r.diags :=
  finishE_diags hE id _ _ (run_good T C hC env text hE _) r h

theorem diag_positions_good (env : Env) (id text : String) (hE : EnvOk env text.toList) (r : FileResult)
    (h : addContentE Driver.Parse.tables env id text = .ok r) : DiagsLc env r.diags :=
  diag_positions_good_gen Driver.Parse.tables cert cert_ok env id text hE r h

/-- non-vacuity of `EnvOk`: the lookup that knows exactly the boundaries of a text -/
def envOf (text : String) : Env :=
  { text := text.toList
    lineCol := fun n => if (Javadoc.splitAtBytes text.toList n).isSome then some (1, 1) else none }

theorem envOf_ok (text : String) : EnvOk (envOf text) text.toList where
  text := rfl
  lineCol := by
    intro n hn
    obtain ⟨pre, post, h1, h2⟩ := hn
    have := JavadocTotal.splitAtBytes_prefix pre post
    simp only [envOf]
    rw [h1, ← h2, this]
    rfl

end Aidl.Props.ParseTotal
