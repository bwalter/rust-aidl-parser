import AidlVerif.Spec.C15
import AidlVerif.Lemmas.Methods

/-! C15, about the model of traverse.rs (`Model/Traverse`). -/

namespace Aidl.Props.C15
open Aidl Aidl.Spec Aidl.Spec.C15

section
variable {σ V : Type}

theorem andThen_assoc (a b c : CF σ V) : (a.andThen b).andThen c = a.andThen (b.andThen c) := by
  funext s
  simp only [CF.andThen]
  rcases a s with ⟨s1, _ | v⟩ <;> simp

theorem continue_andThen (a : CF σ V) : CF.continue_.andThen a = a := by
  funext s; simp [CF.andThen, CF.continue_]

theorem andThen_continue (a : CF σ V) : a.andThen CF.continue_ = a := by
  funext s
  simp only [CF.andThen, CF.continue_]
  rcases a s with ⟨s1, _ | v⟩ <;> simp

theorem tryForEach_append {α} (g : α → CF σ V) (l₁ l₂ : List α) :
    tryForEach g (l₁ ++ l₂) = (tryForEach g l₁).andThen (tryForEach g l₂) := by
  induction l₁ with
  | nil => simp [tryForEach, continue_andThen]
  | cons x xs ih => simp [tryForEach, ih, andThen_assoc]

theorem tryForEach_flatMap {α β} (g : β → CF σ V) (k : α → List β) (h : α → CF σ V)
    (hk : ∀ x, h x = tryForEach g (k x)) (l : List α) : tryForEach h l = tryForEach g (l.flatMap k) := by
  induction l with
  | nil => rfl
  | cons x xs ih => simp [tryForEach, List.flatMap_cons, tryForEach_append, ih, hk]

theorem tryForEach_map {α β} (g : β → CF σ V) (k : α → β) (l : List α) :
    tryForEach (fun x => g (k x)) l = tryForEach g (l.map k) := by
  induction l with
  | nil => rfl
  | cons x xs ih => simp [tryForEach, ih]

theorem tryForEach_singleton (g : Symbol → CF σ V) (x : Symbol) : tryForEach g [x] = g x := by
  simp [tryForEach, andThen_continue]

variable (f : Symbol → CF σ V)

mutual
theorem visitType_eq : (t : Ty) → visitType f t = tryForEach f (typeSymbols t)
  | .mk n k g sy fu => by
    unfold visitType typeSymbols
    simp only [Ty.walkOrder]
    split
    · rw [visitTypes_eq g, List.map_append, tryForEach_append]
      simp [tryForEach_singleton]
    · rw [visitTypes_eq g]
      simp [tryForEach]
theorem visitTypes_eq : (l : List Ty) → visitTypes f l = tryForEach f ((Ty.walkOrderList l).map Symbol.type)
  | [] => by simp [visitTypes, Ty.walkOrderList, tryForEach]
  | t :: ts => by
    unfold visitTypes
    rw [visitType_eq t, visitTypes_eq ts]
    simp [Ty.walkOrderList, typeSymbols, tryForEach_append]
end

theorem visitArg_eq (filter : SymbolFilter) (m : Method) (a : Arg) :
    visitArg f filter m a = tryForEach f (argSymbols m a) := by
  simp [visitArg, argSymbols, tryForEach, visitType_eq]

theorem visitMethod_eq (filter : SymbolFilter) (i : Interface) (m : Method) :
    visitMethod f filter i m = tryForEach f (methodSymbols filter i m) := by
  unfold visitMethod methodSymbols
  by_cases h : filter = .all
  · simp only [h, if_true, tryForEach, tryForEach_append, visitType_eq,
      tryForEach_flatMap f (argSymbols m) _ (visitArg_eq f _ m)]
  · simp [h, tryForEach, andThen_continue]

theorem visitConst_eq (filter : SymbolFilter) (o : ConstOwner) (c : Const) :
    visitConst f filter o c = tryForEach f (constSymbols filter o c) := by
  unfold visitConst constSymbols
  by_cases h : filter = .all <;> simp [h, tryForEach, visitType_eq, andThen_continue]

theorem visitField_eq (filter : SymbolFilter) (p : Parcelable) (fi : Field) :
    visitField f filter p fi = tryForEach f (fieldSymbols filter p fi) := by
  unfold visitField fieldSymbols
  by_cases h : filter = .all <;> simp [h, tryForEach, visitType_eq, andThen_continue]

theorem visitItem_eq (filter : SymbolFilter) (ast : AidlFile) :
    visitItem f filter ast = tryForEach f (itemSymbols filter ast) := by
  unfold visitItem itemSymbols
  by_cases h : filter = .itemsOnly
  · cases ast.item <;> simp [h, tryForEach]
  · cases ast.item with
    | interface i =>
      simp only [h, if_false, tryForEach]
      rw [tryForEach_flatMap f (interfaceElementSymbols filter i) _ fun el => by
        cases el with
        | method m => exact visitMethod_eq f filter i m
        | const c => exact visitConst_eq f filter _ c]
    | parcelable p =>
      simp only [h, if_false, tryForEach]
      rw [tryForEach_flatMap f (parcelableElementSymbols filter p) _ fun el => by
        cases el with
        | field fi => exact visitField_eq f filter p fi
        | const c => exact visitConst_eq f filter _ c]
    | enum e =>
      simp only [h, if_false, tryForEach]
      rw [tryForEach_map f (fun el => Symbol.enumElement el e)]

/-- **Refinement**: the control-flow walker is the short-circuit fold of the closure over the
    declarative visit list — for every closure, every closure state, every break value, every
    tree and every filter level. -/
theorem walk_eq (ast : AidlFile) (filter : SymbolFilter) :
    walkSymbolsCF f ast filter = tryForEach f (symbols filter ast) := by
  unfold walkSymbolsCF symbols
  rw [tryForEach_append, visitItem_eq]
  congr 1
  by_cases h : filter = .all
  · simp only [h, if_true, tryForEach]
    congr 1
    exact tryForEach_map f Symbol.import_ ast.imports
  · simp [h, tryForEach]

end

theorem tryForEach_never_break {σ} (g : σ → Symbol → σ) (l : List Symbol) (s : σ) :
    (tryForEach (V := Unit) (fun smb s => (g s smb, none)) l s) = (l.foldl g s, none) := by
  induction l generalizing s with
  | nil => rfl
  | cons x xs ih => simp [tryForEach, CF.andThen, ih]

theorem walkSymbols_eq {σ} (ast : AidlFile) (filter : SymbolFilter) (g : σ → Symbol → σ) (s : σ) :
    walkSymbols ast filter g s = (symbols filter ast).foldl g s := by
  unfold walkSymbols
  rw [walk_eq, tryForEach_never_break]

/-- `find_symbol` returns the first visited symbol on which the (possibly stateful) predicate
    answers true, and stops calling the predicate there — for every predicate, including ones
    that select the package -/
theorem find_eq {σ} (ast : AidlFile) (filter : SymbolFilter) (p : σ → Symbol → σ × Bool) (s : σ) :
    findSymbol ast filter p s = findStateful p s (symbols filter ast) := by
  unfold findSymbol
  rw [walk_eq]
  generalize symbols filter ast = l
  induction l generalizing s with
  | nil => rfl
  | cons x xs ih =>
    simp only [tryForEach, CF.andThen, findStateful]
    rcases hp : p s x with ⟨s', b⟩
    cases b <;> simp [ih]

theorem filter_eq {σ} (ast : AidlFile) (filter : SymbolFilter) (p : σ → Symbol → σ × Bool) (s : σ) :
    filterSymbols ast filter p s = filterStateful p s (symbols filter ast) := by
  unfold filterSymbols
  simp only
  rw [walkSymbols_eq]
  generalize symbols filter ast = l
  have : ∀ (acc : List Symbol) (s : σ),
      l.foldl (fun (st : σ × List Symbol) smb =>
        let (s', b) := p st.1 smb
        (s', if b then st.2 ++ [smb] else st.2)) (s, acc)
      = ((filterStateful p s l).1, acc ++ (filterStateful p s l).2) := by
    induction l with
    | nil => intro acc s; simp [filterStateful]
    | cons x xs ih =>
      intro acc s
      simp only [List.foldl_cons, filterStateful]
      rcases hp : p s x with ⟨s', b⟩
      simp only
      rw [ih]
      cases b <;> simp
  have h := this [] s
  simp only [List.nil_append] at h
  rw [h]

theorem find_pure (ast : AidlFile) (filter : SymbolFilter) (p : Symbol → Bool) :
    (findSymbol ast filter (fun (_ : Unit) smb => ((), p smb)) ()).2 = (symbols filter ast).find? p := by
  rw [find_eq]
  generalize symbols filter ast = l
  induction l with
  | nil => rfl
  | cons x xs ih =>
    simp only [findStateful, List.find?_cons]
    cases p x <;> simp [ih]

theorem filter_pure (ast : AidlFile) (filter : SymbolFilter) (p : Symbol → Bool) :
    (filterSymbols ast filter (fun (_ : Unit) smb => ((), p smb)) ()).2 = (symbols filter ast).filter p := by
  rw [filter_eq]
  generalize symbols filter ast = l
  induction l with
  | nil => rfl
  | cons x xs ih =>
    simp only [filterStateful, List.filter_cons]
    cases p x <;> simp [ih]

theorem level_items (ast : AidlFile) : (symbols .itemsOnly ast).length = 1 := by
  unfold symbols itemSymbols
  cases ast.item <;> simp

theorem level_sublist (ast : AidlFile) :
    (symbols .itemsOnly ast).Sublist (symbols .itemsAndItemElements ast)
    ∧ (symbols .itemsAndItemElements ast).Sublist (symbols .all ast) := by
  unfold symbols itemSymbols
  constructor
  · cases ast.item <;> simp
  · simp only [reduceCtorEq, if_false, if_true, List.nil_append]
    apply List.Sublist.trans _ (List.sublist_append_right _ _)
    cases ast.item with
    | interface i =>
      apply List.Sublist.cons_cons
      refine sublist_flatMap (.refl _) fun el => ?_
      cases el with
      | method m => simp [interfaceElementSymbols, methodSymbols]
      | const c => simp [interfaceElementSymbols, constSymbols]
    | parcelable p =>
      apply List.Sublist.cons_cons
      refine sublist_flatMap (.refl _) fun el => ?_
      cases el with
      | field fi => simp [parcelableElementSymbols, fieldSymbols]
      | const c => simp [parcelableElementSymbols, constSymbols]
    | enum e => simp

theorem walk_types_eq {σ} (ast : AidlFile) (g : σ → Ty → σ) (s : σ) :
    walkTypes ast g s = (allTypesWalk ast).foldl g s := walkTypes_eq ast g s

theorem walk_methods_eq {σ} (ast : AidlFile) (g : σ → Method → σ) (s : σ) :
    walkMethods ast g s = (methodsOf ast).foldl g s := walkMethods_eq_foldl ast g s

theorem walk_args_eq {σ} (ast : AidlFile) (g : σ → Method → Arg → σ) (s : σ) :
    walkArgs ast g s = (allArgs ast).foldl (fun s p => g s p.1 p.2) s := by
  have h : walkArgs ast g s = walkMethods ast (fun s m => m.args.foldl (fun s a => g s m a) s) s := by
    unfold walkArgs walkMethods
    rfl
  rw [h, walkMethods_eq_foldl, allArgs, List.foldl_flatMap]
  simp only [List.foldl_map]

theorem all_types_once (ast : AidlFile) :
    (symbols .all ast).filterMap (fun s => match s with | .type t => some t | _ => none) = allTypesWalk ast := by
  unfold symbols itemSymbols allTypesWalk topTypes
  have ht : ∀ t : Ty, (typeSymbols t).filterMap (fun s => match s with | .type t => some t | _ => none) = Ty.walkOrder t := by
    intro t; unfold typeSymbols; rw [List.filterMap_map]; simp [Function.comp_def]
  simp only [if_true, List.filterMap_append, List.filterMap_cons, List.filterMap_map]
  have hi : (ast.imports.filterMap ((fun s => match s with | Symbol.type t => some t | _ => none) ∘ Symbol.import_)) = [] := by
    simp [Function.comp_def]
  rw [hi]
  cases ast.item with
  | interface i =>
    simp only [reduceCtorEq, if_false, List.filterMap_cons, List.nil_append, List.filterMap_flatMap,
      List.flatMap_assoc]
    congr 1
    funext el
    cases el with
    | const c => simp [interfaceElementSymbols, constSymbols, InterfaceElement.topTypes, ht]
    | method m =>
      simp only [interfaceElementSymbols, methodSymbols, if_true, List.filterMap_cons, List.filterMap_append, ht,
        InterfaceElement.topTypes, Method.topTypes, List.flatMap_cons, List.filterMap_flatMap, List.flatMap_map]
      congr 1
      simp [argSymbols, ht]
  | parcelable p =>
    simp only [reduceCtorEq, if_false, List.filterMap_cons, List.nil_append, List.filterMap_flatMap,
      List.flatMap_assoc]
    congr 1
    funext el
    cases el with
    | const c => simp [parcelableElementSymbols, constSymbols, ParcelableElement.topTypes, ht]
    | field fi => simp [parcelableElementSymbols, fieldSymbols, ParcelableElement.topTypes, ht]
  | enum e => simp [Function.comp_def]

end Aidl.Props.C15
