import AidlVerif.Spec.C12
import AidlVerif.Props.C11

/-! C12, about the model of parser.rs (`Model/Store`). -/

namespace Aidl.Props.C12
open Aidl Aidl.Spec Aidl.Spec.C12

theorem ainsert_map {β γ} (g : String → β → γ) (l : List (String × β)) (id : String) (v : β) :
    ainsert (l.map (fun p => (p.1, g p.1 p.2))) id (g id v) = (ainsert l id v).map (fun p => (p.1, g p.1 p.2)) := by
  induction l with
  | nil => rfl
  | cons p rest ih =>
    obtain ⟨k, w⟩ := p
    simp only [List.map_cons, ainsert]
    by_cases h : k = id
    · subst h; simp
    · simp [h, ih]

theorem aerase_map {β γ} (g : String → β → γ) (l : List (String × β)) (id : String) :
    aerase (l.map (fun p => (p.1, g p.1 p.2))) id = (aerase l id).map (fun p => (p.1, g p.1 p.2)) := by
  unfold aerase
  rw [List.filter_map]
  rfl

def mkfr (parse : ParseFn) (id content : String) : FileResult :=
  { id := id, ast := (parse content).1, diags := (parse content).2 }

theorem entry_eq (parse : ParseFn) : entry parse = fun p => (p.1, mkfr parse p.1 p.2) := rfl

theorem step_refines (parse : ParseFn) (read : String → Except String String) (ho : HashOrder)
    (cs : List (String × String)) (op : Op) :
    (step parse read ho (cs.map (entry parse)) op).1 = (contentsStep read cs op).map (entry parse) := by
  cases op with
  | add id content => exact ainsert_map (mkfr parse) cs id content
  | remove id => exact aerase_map (mkfr parse) cs id
  | validate => rfl
  | addFile path =>
    simp only [step, contentsStep]
    cases read path with
    | ok text => exact ainsert_map (mkfr parse) cs path text
    | error e => rfl

/-- After any history, the parser's state is exactly the abstract id ↦ latest-content map with
    every content parsed: removed ids are absent, a replaced id holds only its latest content,
    validations and failed loads change nothing. -/
theorem store_refines (parse : ParseFn) (read : String → Except String String) (ho : HashOrder) (ops : List Op) :
    run parse read ho [] ops = (contents read ops).map (entry parse) :=
  List.foldl_hom (List.map (entry parse)) (g₁ := contentsStep read)
    (g₂ := fun s op => (step parse read ho s op).1) (init := []) (step_refines parse read ho)

theorem validate_pure (parse : ParseFn) (read : String → Except String String) (ho : HashOrder) (s : Store) :
    (step parse read ho s .validate).1 = s := rfl

theorem add_file_ok (parse : ParseFn) (read : String → Except String String) (ho : HashOrder) (s : Store)
    (path text : String) (h : read path = .ok text) :
    (step parse read ho s (.addFile path)).1 = (step parse read ho s (.add path text)).1
    ∧ (step parse read ho s (.addFile path)).2 = .io (.ok ()) := by
  simp [step, h]

/-- an unreadable or non-UTF-8 file changes nothing and reports the I/O error -/
theorem add_file_err (parse : ParseFn) (read : String → Except String String) (ho : HashOrder) (s : Store)
    (path e : String) (h : read path = .error e) :
    step parse read ho s (.addFile path) = (s, .io (.error e)) := by
  simp [step, h]

theorem ainsert_keys {β} (l : List (String × β)) (id : String) (v : β) :
    (ainsert l id v).map (·.1) = if id ∈ l.map (·.1) then l.map (·.1) else l.map (·.1) ++ [id] := by
  induction l with
  | nil => rfl
  | cons p rest ih =>
    obtain ⟨k, w⟩ := p
    by_cases hk : k = id
    · simp [ainsert, hk]
    · have : ¬ id = k := fun e => hk e.symm
      simp only [ainsert, hk, if_false, List.map_cons, ih, List.mem_cons, this, false_or]
      split <;> rfl

theorem ainsert_keys_nodup {β} (l : List (String × β)) (id : String) (v : β) (h : (l.map (·.1)).Nodup) :
    ((ainsert l id v).map (·.1)).Nodup := by
  rw [ainsert_keys]
  split
  · exact h
  · rename_i hn
    refine List.nodup_append.mpr ⟨h, by simp, fun a ha b hb e => hn ?_⟩
    rw [← List.mem_singleton.mp hb, ← e]
    exact ha

theorem aerase_keys_nodup {β} (l : List (String × β)) (id : String) (h : (l.map (·.1)).Nodup) :
    ((aerase l id).map (·.1)).Nodup := by
  unfold aerase
  exact List.Nodup.sublist (List.filter_sublist.map _) h

theorem contents_keys_nodup (read : String → Except String String) (ops : List Op) :
    ((contents read ops).map (·.1)).Nodup := by
  unfold contents
  refine List.foldlRecOn ops (contentsStep read) (motive := fun cs => (cs.map (·.1)).Nodup) (b := [])
    List.nodup_nil fun cs h op _ => ?_
  cases op with
  | add id content => exact ainsert_keys_nodup cs id content h
  | remove id => exact aerase_keys_nodup cs id h
  | validate => exact h
  | addFile path =>
    simp only [contentsStep]
    cases read path with
    | ok text => exact ainsert_keys_nodup cs path text h
    | error e => exact h

theorem ainsert_new {β} (l : List (String × β)) (id : String) (v : β) (h : id ∉ l.map (·.1)) :
    ainsert l id v = l ++ [(id, v)] := by
  induction l with
  | nil => rfl
  | cons p rest ih =>
    obtain ⟨k, w⟩ := p
    simp only [List.map_cons, List.mem_cons, not_or] at h
    have : ¬ k = id := fun e => h.1 e.symm
    simp [ainsert, this, ih h.2]

theorem foldl_ainsert_new {β} : ∀ (rest pre : List (String × β)), ((pre ++ rest).map (·.1)).Nodup →
    rest.foldl (fun l p => ainsert l p.1 p.2) pre = pre ++ rest
  | [], pre, _ => by simp
  | p :: rest, pre, h => by
    have hnew : p.1 ∉ pre.map (·.1) := fun hm => by
      rw [List.map_append, List.map_cons] at h
      exact (List.nodup_append.mp h).2.2 _ hm _ (List.mem_cons_self ..) rfl
    rw [List.foldl_cons, ainsert_new _ _ _ hnew, foldl_ainsert_new rest (pre ++ [p]) (by simpa using h)]
    simp

/-- the fresh parser is the parser after the history that adds the pairs, whose surviving contents
    are the pairs -/
theorem freshStore_eq (parse : ParseFn) (pairs : List (String × String)) (h : (pairs.map (·.1)).Nodup) :
    freshStore parse pairs = pairs.map (entry parse) := by
  have hrun : freshStore parse pairs
      = run parse (fun _ => .error "") HashOrder.id [] (pairs.map fun p => .add p.1 p.2) := by
    unfold freshStore run
    rw [List.foldl_map]
    rfl
  rw [hrun, store_refines]
  congr 1
  unfold contents
  rw [List.foldl_map]
  exact (foldl_ainsert_new pairs [] (by simpa using h)).trans (List.nil_append _)

/-- **C12 for the model.** After any history (with validations, failed loads and removals of
    absent ids anywhere), validation returns what a fresh parser holding only the surviving
    (id, latest content) pairs — added in any order, iterated in any hash order — returns. -/
theorem validate_after_history (parse : ParseFn) (read : String → Except String String)
    (ho ho₁ ho₂ : HashOrder) (ops : List Op) (pairs : List (String × String))
    (hpairs : pairs.Perm (contents read ops))
    (wf : ∀ c a, (parse c).1 = some a → Props.C11.WFRanges a)
    (r₁ r₂ : List FileResult)
    (h₁ : validate ho₁ (run parse read ho [] ops).values = .ok r₁)
    (h₂ : validate ho₂ (freshStore parse pairs).values = .ok r₂) :
    r₁.Perm r₂ := by
  rw [store_refines] at h₁
  have hnd : (pairs.map (·.1)).Nodup := (hpairs.map _).nodup_iff.mpr (contents_keys_nodup read ops)
  rw [freshStore_eq parse pairs hnd] at h₂
  apply Props.C11.validate_order_independent ho₁ ho₂ _ _ _ _ r₁ r₂ h₁ h₂
  · unfold Store.values
    exact ((hpairs.symm.map (entry parse)).map _)
  · intro fr hfr a ha
    unfold Store.values at hfr
    simp only [List.map_map, List.mem_map] at hfr
    obtain ⟨p, _, rfl⟩ := hfr
    exact wf p.2 a ha

end Aidl.Props.C12
