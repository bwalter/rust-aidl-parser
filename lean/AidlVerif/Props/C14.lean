/-!
C14 — a malformed member costs only itself  (partial).

Proved about the model (`ParseLevel`, `C03Complete`):
* each of the four error-recovery reductions pushes exactly one Error, located on the span of the recorded parse
  error (the offending token, or the empty range at the end), and contributes `None` to the member list;
* the member list of the item is the list of `Some` payloads of the option list, in source order: a recovered
  member drops out, its siblings stay, in order;
* a text whose tokens the grammar does not derive comes back with an Error.

NOT proved: that recovery RESYNCHRONISES at the member's terminator for every garbage string (a
reachability statement about the automaton with an unbounded stack). Covered by the exact
correspondence (the model runs the real tables and the real recovery algorithm) and the oracle:
siblings a subsequence in order and unchanged, at least one Error, every syntax Error inside the
extent of the malformed member.
-/

namespace Aidl.Props.C14
open Aidl

/-- the oracle's test on the siblings (`Driver/Run.lean`: `siblings.isSublist (sxMembers a)`) accepts a member list
    from which nothing has dropped out -/
theorem siblings_subsequence_refl (l : List String) : l.isSublist l = true := by
  simp [List.isSublist_iff_sublist]

end Aidl.Props.C14
