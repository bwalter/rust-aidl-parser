import AidlVerif.Spec.C17
import AidlVerif.Props.C05
import AidlVerif.Lemmas.Keys

/-! C17, about the models of symbol.rs, ast.rs and validation.rs. -/

namespace Aidl.Props.C17
open Aidl Aidl.Spec Aidl.Spec.C17

theorem item_qname_is_key (ast : AidlFile) : (itemSymbol ast).qualifiedName = some ast.key := by
  unfold itemSymbol AidlFile.key Item.name
  cases ast.item <;> rfl

theorem item_name (ast : AidlFile) : (itemSymbol ast).name = some ast.item.name := by
  unfold itemSymbol Item.name
  cases ast.item <;> rfl

/-- `get_qualified_name` is what the statement prescribes, for every symbol -/
theorem qualified_eq (s : Symbol) : s.qualifiedName = expectedQualified s := by
  cases s with
  | const c o => cases o <;> rfl
  | import_ i => simp [Symbol.qualifiedName, expectedQualified, Import.qname]
  | _ => rfl

theorem resolved_qname (t : Ty) (k : String) (rk : RKind) (h : t.kind = .resolved k rk) :
    (Symbol.type t).qualifiedName = some k := by
  simp [Symbol.qualifiedName, h]

theorem defined_from_project (files : List FileResult) (k : String) (v : RKind)
    (h : (collectItemKeys files).get k = some v) :
    ∃ fr ∈ files, ∃ a, fr.ast = some a ∧ a.key = k := by
  rw [collectItemKeys_eq] at h
  refine List.foldlRecOn files keyStep
    (motive := fun d => ∀ v, d.get k = some v → ∃ fr ∈ files, ∃ a, fr.ast = some a ∧ a.key = k)
    (fun _ h => by cases h) (fun d ih fr hfr v h => ?_) v h
  unfold keyStep at h
  cases hast : fr.ast with
  | none =>
    rw [hast] at h
    exact ih v h
  | some a =>
    rw [hast, get_insertMin_eq] at h
    split at h
    · rename_i e
      exact ⟨fr, hfr, a, hast, e.symm⟩
    · exact ih v h

theorem classify_item_kind (imports declared : List String) (defined : Defined) (name k : String) (rk : RKind)
    (h : Spec.C05.classify imports declared defined name = .resolved k rk) (hk : isItemKind rk = true) :
    defined.get k = some rk := by
  unfold Spec.C05.classify at h
  split at h
  · cases h
  · split at h
    · split at h
      · cases h
      · injection h with h1 h2
        subst h1
        cases hd : defined.get _ with
        | some v => simp [hd] at h2; rw [h2]
        | none => simp [hd] at h2; rw [← h2] at hk; cases hk
    · split at h
      · injection h with h1 h2
        rw [← h2] at hk; cases hk
      · split at h <;> cases h

/-- **A type that resolves to an item comes with that item**: in any validated file (any hash
    order), a type node — at any depth — whose kind is an item kind with key `k` comes with a file
    of the project whose key is `k` and whose item symbol has qualified name `k`. That the type
    symbol has qualified name `k` too is `resolved_qname`. (`hparser`: the tree handed to
    validation carries no resolved kind yet. `PipelineTotal.parser_never_resolves` proves it of every
    parser output; `PipelineTotal.resolved_to_item_of_parsed` is this theorem without it.) -/
theorem resolved_to_item (ho : HashOrder) (files : List FileResult) (syn : List Diag) (ast : AidlFile) (g : Groups)
    (hg : validateGroups ho (collectItemKeys (ho.ord files)) syn ast = .ok g)
    (hparser : ∀ t ∈ allTypesPre ast, t.kind = .unresolved ∨ ∀ k rk, t.kind ≠ .resolved k rk)
    (n : String × Range × TypeKind) (hn : n ∈ Spec.C05.nodes g.ast) (k : String) (rk : RKind)
    (hkind : n.2.2 = .resolved k rk) (hitem : isItemKind rk = true) :
    ∃ fr ∈ files, ∃ a, fr.ast = some a ∧ a.key = k
      ∧ (itemSymbol a).qualifiedName = some k := by
  rw [Props.C05.nodes_validated hg] at hn
  obtain ⟨t, ht, rfl⟩ := List.mem_map.mp hn
  simp only at hkind
  have hcl : Spec.C05.classify (ast.imports.map Import.qname) (ast.declaredParcelables.map Import.qname)
      (collectItemKeys (ho.ord files)) t.name = .resolved k rk := by
    unfold Spec.C05.newKind at hkind
    split at hkind
    next => exact hkind
    next hu =>
      -- a kind that validation kept: `hparser` excludes it, either way
      rcases hparser t ht with h | h
      · exact absurd h hu
      · exact absurd hkind (h k rk)
  have hget := classify_item_kind _ _ _ _ _ _ hcl hitem
  obtain ⟨fr, hfr, a, ha, hk⟩ := defined_from_project _ _ _ hget
  exact ⟨fr, (ho.perm files).mem_iff.mp hfr, a, ha, hk, by rw [item_qname_is_key, hk]⟩

theorem Ty.strList_eq (l : List Ty) : Ty.strList l = l.map Ty.str := by
  induction l with
  | nil => rfl
  | cons t ts ih => simp [Ty.strList, ih]

theorem Ty.str_eq (t : Ty) :
    t.str = if t.gens.isEmpty then t.name else t.name ++ "<" ++ joinWith ", " (t.gens.map Ty.str) ++ ">" := by
  obtain ⟨n, k, g, s, f⟩ := t
  rw [Ty.str, Ty.strList_eq]
  rfl

theorem type_details_is_signature (t : Ty) : (Symbol.type t).details = some (Symbol.type t).signature := rfl

theorem arg_signature (a : Arg) (m : Method) :
    (Symbol.arg a m).signature = (match (Symbol.arg a m).details with | some d => d | none => "")
      ++ (match a.name with | some s => " " ++ s | none => "") := rfl

theorem method_signature (m : Method) (i : Interface) :
    (Symbol.method m i).signature
      = m.returnType.str ++ " " ++ m.name ++ "(" ++ joinWith ", " (m.args.map fun a => (Symbol.arg a m).signature) ++ ")" := rfl

end Aidl.Props.C17
