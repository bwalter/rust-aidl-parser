import AidlVerif.Props.LexNumbers

/-!
`next_numberlike` is `next_run` (in `LexIdent`) at the characters of the FLOAT entry and its first characters: `12` is an
INTEGER, `1.5f`, `-3`, `+7` and `٣` (the `\d` of FLOAT is a digit of any script) are FLOATs, `-` and `.` alone are the
punctuation tokens, each decided on the run alone (`fullOn`).
-/

open Aidl.Regex Aidl.Lexer Aidl.Javadoc Aidl.Props.JavadocTotal Aidl.Props.LexerBounds
  Aidl.Props.RegexSound Aidl.Props.JavadocSpec Aidl.Props.SkipEntries Aidl.Props.LexSkip Aidl.Props.LexerFuel Aidl.Props.LexIdent
  Aidl.Props.LexTokens Aidl.Props.LexNumbers Aidl.Props.LexRuns

namespace Aidl.Props.LexRuns

def floatStart : List (Nat × Nat) := firstCls Gen.lexTable[floatIdx]!.1

theorem numberRuns_ok : runClasses floatChars floatStart = true := by decide +kernel

theorem next_numberlike (fuel : Nat) (c : Char) (t rest : List Char) (p : Nat)
    (hc : inCls floatStart c = true) (hout : ∀ d u, rest = d :: u → inCls floatChars d = false)
    (hf : (c :: t ++ rest).length ≤ fuel) (j0 : Nat) (hj0 : j0 < Gen.lexTable.size) (hfull0 : fullOn j0 (c :: t) = true) :
    ∃ j, j < Gen.lexTable.size ∧ fullOn j (c :: t) = true ∧
      (∀ i, i < Gen.lexTable.size → fullOn i (c :: t) = true → i ≤ j) ∧
      next Gen.lexTable (fuel + 1) (c :: t ++ rest) p
        = .token { start := p, index := j, text := String.ofList (c :: t), stop := p + utf8Len (c :: t) } rest :=
  next_run floatChars floatStart numberRuns_ok fuel c t rest p hc hout hf j0 hj0 hfull0

/-- the same function as `LexIdent.wordEntry` -/
def lastFull (w : String) : Option Nat := ((List.range Gen.lexTable.size).filter (fun i => fullOn i w.toList)).getLast?

example : lastFull "12" = some intIdx ∧ lastFull "1.5f" = some floatIdx ∧ lastFull "-3" = some floatIdx ∧ lastFull "+7" = some floatIdx := by
  decide +kernel
example : lastFull "-" = some (Gen.lexTable.toList.idxOf (Re.cls [(45, 45)], false)) ∧ lastFull "." = some (Gen.lexTable.toList.idxOf (Re.cls [(46, 46)], false)) := by
  decide +kernel
example : lastFull "1.2.3" = none ∧ lastFull "12ff" = none := by decide +kernel

end Aidl.Props.LexRuns

-- `tools/props.py` audits the theorem as `Aidl.Props.LexNumbers.next_integer`; it stands here because it is an instance of
-- `next_numberlike`

namespace Aidl.Props.LexNumbers

theorem next_integer (fuel : Nat) (c : Char) (t rest : List Char) (p : Nat)
    (hc : isDigit c = true) (ht : ∀ d ∈ t, isDigit d = true)
    (hout : ∀ d u, rest = d :: u → inCls floatChars d = false) (hf : (c :: t ++ rest).length ≤ fuel) :
    next Gen.lexTable (fuel + 1) (c :: t ++ rest) p
      = .token { start := p, index := intIdx, text := String.ofList (c :: t), stop := p + utf8Len (c :: t) } rest := by
  have hcert := numberEntries_ok
  simp only [numberEntries, Bool.and_eq_true, decide_eq_true_eq] at hcert
  obtain ⟨⟨⟨hlt, _⟩, _⟩, hall⟩ := hcert
  have hstart : inCls floatStart c = true := rangesSub_sound digitCls floatStart (by decide +kernel) c hc
  obtain ⟨j, hj, hjf, hmax, hnext⟩ :=
    next_numberlike fuel c t rest p hstart hout hf intIdx intIdx_entry.1 (intIdx_full c t hc ht)
  -- the last entry that matches the run is INTEGER: only FLOAT, which stands before it, can also begin with a digit
  have : j = intIdx := by
    have h1 := hmax intIdx intIdx_entry.1 (intIdx_full c t hc ht)
    by_cases hji : j = intIdx
    · exact hji
    · by_cases hjf' : j = floatIdx
      · omega
      · have := (others_empty (fun i => i == intIdx || i == floatIdx) digitCls hall hc _ t 0 j (by simp [hji, hjf'])).eq
          (eq_of_beq hjf)
        have := utf8Len_pos (w := c :: t) (by simp)
        omega
  rw [hnext, this]

end Aidl.Props.LexNumbers
