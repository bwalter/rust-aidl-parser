import AidlVerif.Props.LrSafeCertDefs
namespace Aidl.Props.LrSafe
open Aidl Aidl.Lr
theorem rows_ok : Cert.rowsOK Driver.Parse.tables cert = true := by
  unfold Cert.rowsOK Cert.shiftOK Cert.actOK Cert.hasEdge Cert.succOf Cert.redsOf
  simp only [← Array.getElem?_toList]
  decide +kernel
theorem eof_ok : Cert.eofOK Driver.Parse.tables cert = true := by decide +kernel
end Aidl.Props.LrSafe
