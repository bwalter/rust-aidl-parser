import AidlVerif.Model.Javadoc

/-!
`get_javadoc` never panics (the site of defect F1, DESIGN.md §6), for every text and every character boundary. The backward scan of
`find_content_string` counts BYTES from the end of the prefix; by the scan invariant `Inv` both slice offsets
`len - start_pos` and `len - end_pos` are character boundaries of the prefix and `len - start_pos ≤ len - end_pos`, so
`&input[start..end]` is defined.
-/

namespace Aidl.Props.JavadocTotal
open Aidl.Javadoc

theorem star_size : ('*' : Char).utf8Size = 1 := by decide
theorem slash_size : ('/' : Char).utf8Size = 1 := by decide

theorem utf8Len_eq_sum (cs : List Char) : utf8Len cs = (cs.map Char.utf8Size).sum := by
  rw [List.sum_eq_foldl_nat, List.foldl_map]
  rfl

theorem utf8Len_nil : utf8Len [] = 0 := rfl
theorem utf8Len_cons (c : Char) (cs : List Char) : utf8Len (c :: cs) = c.utf8Size + utf8Len cs := by
  simp [utf8Len_eq_sum]
theorem utf8Len_append (a b : List Char) : utf8Len (a ++ b) = utf8Len a + utf8Len b := by
  simp [utf8Len_eq_sum]
theorem utf8Len_reverse (a : List Char) : utf8Len a.reverse = utf8Len a := by
  simp [utf8Len_eq_sum]

theorem utf8Len_eq_zero {w : List Char} : utf8Len w = 0 ↔ w = [] := by
  cases w with
  | nil => simp [utf8Len_nil]
  | cons c t =>
    rw [utf8Len_cons]
    have := c.utf8Size_pos
    simp
    omega

theorem utf8Len_pos {w : List Char} (h : w ≠ []) : 0 < utf8Len w :=
  Nat.pos_of_ne_zero fun h0 => h (utf8Len_eq_zero.mp h0)

theorem prefix_nest (a ta b tb : List Char) (h : a ++ ta = b ++ tb) (hle : utf8Len b ≤ utf8Len a) :
    ∃ m, a = b ++ m := by
  rcases List.append_eq_append_iff.mp h with ⟨m, h1, _⟩ | ⟨m, h1, _⟩
  · rw [h1, utf8Len_append] at hle
    have : m = [] := utf8Len_eq_zero.mp (by omega)
    exact ⟨[], by rw [h1, this]; simp⟩
  · exact ⟨m, h1⟩

theorem splitAtBytes_prefix (pre post : List Char) :
    splitAtBytes (pre ++ post) (utf8Len pre) = some (pre, post) := by
  induction pre with
  | nil => simp [utf8Len_nil, splitAtBytes]
  | cons c cs ih =>
    rw [utf8Len_cons]
    have hpos := c.utf8Size_pos
    obtain ⟨k, hk⟩ : ∃ k, c.utf8Size + utf8Len cs = k + 1 := ⟨c.utf8Size + utf8Len cs - 1, by omega⟩
    rw [hk]
    simp only [List.cons_append, splitAtBytes]
    have h1 : c.utf8Size ≤ k + 1 := by omega
    have h2 : k + 1 - c.utf8Size = utf8Len cs := by omega
    simp [h1, h2, ih]

theorem sliceBytes_ok (a b c : List Char) :
    sliceBytes (a ++ b ++ c) (utf8Len a) (utf8Len a + utf8Len b) = some b := by
  unfold sliceBytes
  have h : ¬ utf8Len a > utf8Len a + utf8Len b := by omega
  simp only [h, if_false, List.append_assoc]
  rw [splitAtBytes_prefix a (b ++ c)]
  simp only
  have : utf8Len a + utf8Len b - utf8Len a = utf8Len b := by omega
  rw [this, splitAtBytes_prefix b c]
  rfl

theorem sliceBytes_prefix (pre post : List Char) : sliceBytes (pre ++ post) 0 (utf8Len pre) = some pre := by
  simpa [utf8Len_nil] using sliceBytes_ok [] pre post

theorem takeBytes_append_len : ∀ (pre rest : List Char) (a : Nat),
    takeBytes (utf8Len pre + a) (pre ++ rest) = pre ++ takeBytes a rest
  | [], rest, a => by simp [utf8Len_nil]
  | c :: cs, rest, a => by
    have hpos := c.utf8Size_pos
    obtain ⟨n, hn⟩ : ∃ n, utf8Len (c :: cs) + a = n + 1 := ⟨utf8Len (c :: cs) + a - 1, by rw [utf8Len_cons]; omega⟩
    rw [hn, List.cons_append, takeBytes]
    have : n + 1 - c.utf8Size = utf8Len cs + a := by rw [utf8Len_cons] at hn; omega
    rw [this, takeBytes_append_len cs rest a]
    rfl

theorem dropBytes_append_len : ∀ (pre rest : List Char) (b : Nat),
    dropBytes (utf8Len pre + b) (pre ++ rest) = dropBytes b rest
  | [], rest, b => by simp [utf8Len_nil]
  | c :: cs, rest, b => by
    have hpos := c.utf8Size_pos
    obtain ⟨n, hn⟩ : ∃ n, utf8Len (c :: cs) + b = n + 1 := ⟨utf8Len (c :: cs) + b - 1, by rw [utf8Len_cons]; omega⟩
    rw [hn, List.cons_append, dropBytes]
    have : n + 1 - c.utf8Size = utf8Len cs + b := by rw [utf8Len_cons] at hn; omega
    rw [this, dropBytes_append_len cs rest b]

theorem takeBytes_prefix (pre rest : List Char) : takeBytes (utf8Len pre) (pre ++ rest) = pre := by
  have := takeBytes_append_len pre rest 0
  rw [Nat.add_zero] at this
  rw [this]
  cases rest <;> simp [takeBytes]

theorem dropBytes_prefix (pre rest : List Char) : dropBytes (utf8Len pre) (pre ++ rest) = rest := by
  have := dropBytes_append_len pre rest 0
  rw [Nat.add_zero] at this
  rw [this]
  cases rest <;> rfl

/-- `r₁` = the characters scanned so far (last character of the prefix first) -/
structure Inv (s : Scan) (r₁ : List Char) : Prop where
  pos : s.done = false → s.pos = utf8Len r₁
  endp : ∀ e, s.endPos = some e → ∃ r₀ t, r₁ = r₀ ++ t ∧ e = utf8Len r₀
  inside : s.done = false → s.state = .insideComment → ∃ e, s.endPos = some e ∧ e ≤ s.pos
  bbs : s.done = false → s.state = .beforeBeginStar →
    ∃ e r', s.endPos = some e ∧ e + 1 ≤ s.pos ∧ r₁ = r' ++ ['*']
  bbss : s.done = false → s.state = .beforeBeginStarStar →
    ∃ e r', s.endPos = some e ∧ e + 2 ≤ s.pos ∧ r₁ = r' ++ ['*', '*']
  startp : ∀ st, s.startPos = some st → ∃ r₀ t e, r₁ = r₀ ++ t ∧ st = utf8Len r₀ ∧ s.endPos = some e ∧ e ≤ st
  nostart : s.done = false → s.startPos = none

theorem inv_init : Inv {} [] where
  pos := fun _ => rfl
  endp := by intro e h; cases h
  inside := by intro _ h; cases h
  bbs := by intro _ h; cases h
  bbss := by intro _ h; cases h
  startp := by intro st h; cases h
  nostart := fun _ => rfl

def StateInv (s : Scan) (r₁ : List Char) : FindState → Prop
  | .insideComment => ∃ e, s.endPos = some e ∧ e ≤ s.pos
  | .beforeBeginStar => ∃ e r', s.endPos = some e ∧ e + 1 ≤ s.pos ∧ r₁ = r' ++ ['*']
  | .beforeBeginStarStar => ∃ e r', s.endPos = some e ∧ e + 2 ≤ s.pos ∧ r₁ = r' ++ ['*', '*']
  | _ => True

theorem Inv.running {s : Scan} {r₁ : List Char} (hpos : s.pos = utf8Len r₁)
    (hendp : ∀ e, s.endPos = some e → ∃ r₀ t, r₁ = r₀ ++ t ∧ e = utf8Len r₀)
    (hst : StateInv s r₁ s.state) (hns : s.startPos = none) : Inv s r₁ where
  pos := fun _ => hpos
  endp := hendp
  inside := fun _ h => by rw [h] at hst; exact hst
  bbs := fun _ h => by rw [h] at hst; exact hst
  bbss := fun _ h => by rw [h] at hst; exact hst
  startp := fun st h => by rw [hns] at h; cases h
  nostart := fun _ => hns

theorem Inv.stopped {s : Scan} {r₁ : List Char} (hd : s.done = true)
    (hendp : ∀ e, s.endPos = some e → ∃ r₀ t, r₁ = r₀ ++ t ∧ e = utf8Len r₀)
    (hstartp : ∀ st, s.startPos = some st → ∃ r₀ t e, r₁ = r₀ ++ t ∧ st = utf8Len r₀ ∧ s.endPos = some e ∧ e ≤ st) : Inv s r₁ where
  pos := fun h => by rw [hd] at h; cases h
  endp := hendp
  inside := fun h => by rw [hd] at h; cases h
  bbs := fun h => by rw [hd] at h; cases h
  bbss := fun h => by rw [hd] at h; cases h
  startp := hstartp
  nostart := fun h => by rw [hd] at h; cases h

theorem inv_step (s : Scan) (r₁ : List Char) (c : Char) (h : Inv s r₁) :
    Inv (scanStep Char.utf8Size s c) (r₁ ++ [c]) := by
  have hendp : ∀ e, s.endPos = some e → ∃ r₀ t, r₁ ++ [c] = r₀ ++ t ∧ e = utf8Len r₀ := by
    intro e he
    obtain ⟨r₀, t, h1, h2⟩ := h.endp e he
    exact ⟨r₀, t ++ [c], by rw [h1, List.append_assoc], h2⟩
  unfold scanStep
  by_cases hd : s.done = true
  · rw [if_pos hd]
    refine .stopped hd hendp fun st hst => ?_
    obtain ⟨r₀, t, e, h1, h2, h3, h4⟩ := h.startp st hst
    exact ⟨r₀, t ++ [c], e, by rw [h1, List.append_assoc], h2, h3, h4⟩
  · have hd' : s.done = false := by simpa using hd
    have hpos := h.pos hd'
    have hns := h.nostart hd'
    have hnostart : ∀ st, s.startPos = some st → ∃ r₀ t e, r₁ ++ [c] = r₀ ++ t ∧ st = utf8Len r₀ ∧ s.endPos = some e ∧ e ≤ st := by
      intro st hst; rw [hns] at hst; cases hst
    rw [if_neg hd]
    have hlen : s.pos + c.utf8Size = utf8Len (r₁ ++ [c]) := by
      rw [utf8Len_append, utf8Len_cons, utf8Len_nil, hpos]; omega
    have hcp := c.utf8Size_pos
    -- in every branch the new state is a constructor, so `StateInv` reduces to the one fact that is needed
    cases hst : s.state with
    | idle =>
      simp only
      split
      · exact .running hlen hendp trivial hns
      · split <;> exact .running hlen hendp trivial hns
    | lineCommentOrSomethingElse =>
      simp only
      split
      · exact .running hlen hendp trivial hns
      · split
        · exact .stopped rfl hendp hnostart
        · exact .running hlen hendp trivial hns
    | lineCommentOrSomethingElseBeforeSlash =>
      simp only
      split
      · exact .running hlen hendp trivial hns
      · exact .stopped rfl hendp hnostart
    | beforeEndSlash =>
      simp only
      split
      · refine .running hlen ?_ ⟨_, rfl, Nat.le_refl _⟩ hns
        intro e he
        cases he
        exact ⟨r₁ ++ [c], [], by simp, hlen⟩
      · exact .running hlen hendp trivial hns
    | insideComment =>
      obtain ⟨e, he, hle⟩ := h.inside hd' hst
      simp only
      split
      · rename_i hc
        exact .running hlen hendp ⟨e, r₁, he, by simp only; omega, by rw [hc]⟩ hns
      · exact .running hlen hendp ⟨e, he, by simp only; omega⟩ hns
    | beforeBeginStar =>
      obtain ⟨e, r', he, hle, hr⟩ := h.bbs hd' hst
      simp only
      split
      · rename_i hc
        exact .running hlen hendp ⟨e, r', he, by simp only; omega, by rw [hc, hr]; simp⟩ hns
      · split
        · exact .running hlen hendp trivial hns
        · exact .running hlen hendp ⟨e, he, by simp only; omega⟩ hns
    | beforeBeginStarStar =>
      obtain ⟨e, r', he, hle, hr⟩ := h.bbss hd' hst
      simp only
      split
      · rename_i hc
        refine .stopped rfl hendp fun st hst' => ?_
        have hst'' : st = s.pos + c.utf8Size - 3 := (Option.some.inj hst').symm
        refine ⟨r', ['*', '*', c], e, by rw [hr]; simp, ?_, he, ?_⟩
        · rw [hst'', hc, slash_size, hpos, hr, utf8Len_append, utf8Len_cons, utf8Len_cons, utf8Len_nil, star_size]
          omega
        · rw [hst'', hc, slash_size]; omega
      · exact .running hlen hendp ⟨e, he, by simp only; omega⟩ hns

theorem inv_foldl (cs : List Char) (s : Scan) (r₁ : List Char) (h : Inv s r₁) :
    Inv (cs.foldl (scanStep Char.utf8Size) s) (r₁ ++ cs) := by
  induction cs generalizing s r₁ with
  | nil => simpa using h
  | cons c cs ih =>
    have := ih _ _ (inv_step s r₁ c h)
    simpa [List.append_assoc] using this

theorem findContent_slice (a b c : List Char) (s : Scan) (hs : (a ++ b ++ c).reverse.foldl (scanStep Char.utf8Size) {} = s)
    (hsp : s.startPos = some (utf8Len c + utf8Len b)) (hep : s.endPos = some (utf8Len c)) :
    findContent (a ++ b ++ c) = .ok (some b) := by
  unfold findContent findContentWith
  have hlen : utf8Len (a ++ b ++ c) = utf8Len a + utf8Len b + utf8Len c := by
    rw [utf8Len_append, utf8Len_append]
  simp only [hs, hsp, hep, hlen]
  rw [if_neg (by omega), show utf8Len a + utf8Len b + utf8Len c - (utf8Len c + utf8Len b) = utf8Len a by omega,
    show utf8Len a + utf8Len b + utf8Len c - utf8Len c = utf8Len a + utf8Len b by omega, sliceBytes_ok]

theorem findContent_of_nostart (input : List Char)
    (h : (input.reverse.foldl (scanStep Char.utf8Size) {}).startPos = none) : findContent input = .ok none := by
  unfold findContent findContentWith
  simp only [h]

theorem findContent_no_panic (input : List Char) : ∃ r, findContent input = .ok r := by
  have hinv := inv_foldl input.reverse {} [] inv_init
  rw [List.nil_append] at hinv
  cases hsp : (input.reverse.foldl (scanStep Char.utf8Size) {}).startPos with
  | none => exact ⟨none, findContent_of_nostart input hsp⟩
  | some sp =>
    obtain ⟨r₀, t, e, h1, h2, h3, h4⟩ := hinv.startp sp hsp
    obtain ⟨q₀, u, h5, h6⟩ := hinv.endp e h3
    obtain ⟨m, hm⟩ := prefix_nest r₀ t q₀ u (by rw [← h1, ← h5]) (by omega)
    have hin : input = t.reverse ++ m.reverse ++ q₀.reverse := by
      have : input.reverse.reverse = (q₀ ++ m ++ t).reverse := by rw [h1, hm]
      simpa [List.reverse_append, List.append_assoc] using this
    subst hin
    refine ⟨_, findContent_slice _ _ _ _ rfl ?_ ?_⟩
    · rw [hsp, h2, hm, utf8Len_append, utf8Len_reverse, utf8Len_reverse]
    · rw [h3, h6, utf8Len_reverse]

def IsBoundary (input : List Char) (p : Nat) : Prop := ∃ pre post, input = pre ++ post ∧ utf8Len pre = p

/-- `pos` a character boundary: what the actions pass is a location of the parse (`LrInv.Bd`, `ActionsSafe.safe_getJavadoc`) -/
theorem javadoc_no_panic (input : List Char) (p : Nat) (hb : IsBoundary input p) :
    ∃ r, getJavadoc input p = .ok r := by
  obtain ⟨pre, post, rfl, rfl⟩ := hb
  unfold getJavadoc
  rw [sliceBytes_prefix]
  simp only
  obtain ⟨r, hr⟩ := findContent_no_panic pre
  rw [hr]
  cases r with
  | none => exact ⟨_, rfl⟩
  | some c => exact ⟨_, rfl⟩

/-- defect F1 (DESIGN.md §6) on a witness: with `pos += 1` per character the slice panics -/
theorem v0_panics : (findContentV0 "/**é*/".toList).toOption = none := by
  -- the literal becomes its list of characters by unification; evaluating `toList` would decode UTF-8 in the kernel
  rw [String.toList_ofList]
  decide +kernel

/-- non-vacuity of `javadoc_no_panic` -/
example : (getJavadoc "/** é */x".toList 9).toOption = some (some "é") := by
  rw [String.toList_ofList]
  decide +kernel
example : IsBoundary "/** é */x".toList 9 := by
  rw [String.toList_ofList]
  exact ⟨['/', '*', '*', ' ', 'é', ' ', '*', '/'], ['x'], rfl, by decide⟩

end Aidl.Props.JavadocTotal
