import AidlVerif.Props.C03Complete
import AidlVerif.Props.C02Layout
import AidlVerif.Props.ParseSound
import AidlVerif.Props.PipelineTotal
import AidlVerif.Props.LexToksC

/-!
The hypotheses of the parse-level theorems are satisfiable. Each theorem below instantiates one of the for-all
theorems on a concrete text; the decidable hypotheses are discharged by kernel evaluation of the model (lexer, LR
driver, actions) on that text. They are tests: their only purpose is to show that the theorems are not vacuous.
-/

namespace Aidl.Props.Examples
open Aidl Aidl.Lr Aidl.Actions Aidl.Props.LrSound Aidl.Props.LrInv

def doc1 : String := "package a.b;\nimport c.D;\ninterface I { void f(in int x, out D[] y) = 3; const int K = 1; }"
def doc2 : String := "package a . b ; // layout\n import c.D;interface\tI{void f(in int x,out D [ ] y)=3;/* c */const int K=1;}"

/-- a line/column lookup defined everywhere (the real one is an input of the model) -/
def envOf (t : String) : Env := { text := t.toList, lineCol := fun n => some (1, n + 1) }

theorem envOf_ok (t : String) : EnvOk (envOf t) t.toList := ⟨rfl, fun _ _ => rfl⟩

/-- evaluated on `lexToksC`, which reads the token texts off the input as character lists: equality of `String`s
    is dear in the kernel; so is `toList` of a literal, paid at every occurrence, hence the two texts are spelt out
    as character lists first -/
theorem ex_samelex : lexToks Driver.Parse.tables (doc1.toList.length + 1) doc1.toList 0
    = lexToks Driver.Parse.tables (doc2.toList.length + 1) doc2.toList 0
    ∧ (lexToks Driver.Parse.tables (doc1.toList.length + 1) doc1.toList 0).isSome = true := by
  have h : (LexToksC.lexToksC Driver.Parse.tables (doc1.toList.length + 1) doc1.toList 0
        == LexToksC.lexToksC Driver.Parse.tables (doc2.toList.length + 1) doc2.toList 0
      && (LexToksC.lexToksC Driver.Parse.tables (doc1.toList.length + 1) doc1.toList 0).isSome) = true := by
    unfold doc1 doc2
    rw [String.toList_ofList, String.toList_ofList]
    decide +kernel
  simp only [Bool.and_eq_true, beq_iff_eq] at h
  exact ⟨LexToksC.lexToks_same _ h.1, by rw [LexToksC.lexToks_isSome]; exact h.2⟩

theorem ex_layout : ∃ r1 r2, addContentE Driver.Parse.tables (envOf doc1) "1" doc1 = .ok r1
    ∧ addContentE Driver.Parse.tables (envOf doc2) "2" doc2 = .ok r2
    ∧ r1.ast.map Erase.erAidl = r2.ast.map Erase.erAidl := by
  cases h : lexToks Driver.Parse.tables (doc1.toList.length + 1) doc1.toList 0 with
  | none => have := ex_samelex.2; rw [h] at this; cases this
  | some x =>
    exact C02Layout.layout_independent (envOf doc1) (envOf doc2) "1" "2" doc1 doc2 (envOf_ok doc1) (envOf_ok doc2) x h
      (by rw [← ex_samelex.1]; exact h)

/-- ONE kernel evaluation of the whole parser model on `doc1`; what the theorems below say of that run is read off it -/
theorem ex_run :
    (match parseLoop Driver.Parse.tables (envOf doc1) { input := doc1.toList } (parseFuel doc1) with
     | (s, .accept (.some_ (.aidl _))) => !s.recovered && decide (30 < s.hist.length)
         && C03Complete.lexColsOf Driver.Parse.tables (doc2.toList.length + 1) doc2.toList 0 == some s.hist
     | _ => false) = true := by decide +kernel

theorem ex_run' : ∃ s a, parseLoop Driver.Parse.tables (envOf doc1) { input := doc1.toList } (parseFuel doc1) = (s, .accept (.some_ (.aidl a)))
    ∧ s.recovered = false ∧ 30 < s.hist.length
    ∧ C03Complete.lexColsOf Driver.Parse.tables (doc2.toList.length + 1) doc2.toList 0 = some s.hist
    ∧ Derives Driver.Parse.tables s.hist := by
  have h := ex_run
  split at h
  · rename_i s a hp
    simp only [Bool.and_eq_true, Bool.not_eq_true', decide_eq_true_eq, beq_iff_eq] at h
    have hd := ParseSound.accepted_derives_run (envOf doc1) doc1 (parseFuel doc1) _ (by rw [hp]) (by rw [hp]; exact h.1.1)
    rw [hp] at hd
    exact ⟨s, a, hp, h.1.1, h.1.2, h.2, hd⟩
  · cases h

/-- `Derives` is inhabited -/
theorem ex_derives : ∃ w, Derives Driver.Parse.tables w ∧ 30 < w.length := by
  obtain ⟨s, _, _, _, hlen, _, hd⟩ := ex_run'
  exact ⟨s.hist, hd, hlen⟩

/-- completeness applied: `doc2` — on which `ex_run` evaluates the lexer only (`lexColsOf`), never the LR driver — is
    accepted without error recovery -/
theorem ex_complete : ∃ r v, addContentE Driver.Parse.tables (envOf doc2) "2" doc2 = .ok r
    ∧ (parseLoop Driver.Parse.tables (envOf doc2) { input := doc2.toList } (parseFuel doc2)).2 = .accept v
    ∧ (parseLoop Driver.Parse.tables (envOf doc2) { input := doc2.toList } (parseFuel doc2)).1.recovered = false := by
  obtain ⟨s, _, _, _, _, hc, hd⟩ := ex_run'
  exact C03Complete.wellformed_accepted (envOf doc2) "2" doc2 (envOf_ok doc2) _ hc hd

/-- what `add_content` returns after an accepting run (stated for variables, so that using it on `doc1` evaluates nothing) -/
theorem addContentE_of_accept {T : Tables} {env : Env} {id text : String} {s : St} {a : AidlFile}
    (hp : parseLoop T env { input := text.toList } (parseFuel text) = (s, .accept (.some_ (.aidl a)))) :
    addContentE T env id text = .ok { id, ast := some a, diags := s.diags } := by
  simp only [addContentE, hp, finishE]

/-- the pipeline theorems apply to `doc1` with no hypothesis evaluated -/
theorem ex_pipeline : ∃ fr out, addContentE Driver.Parse.tables (envOf doc1) "1" doc1 = .ok fr
    ∧ fr.ast.isSome = true
    ∧ validateFile HashOrder.id [] fr = .ok out
    ∧ Spec.C05.holdsFile [] fr out = true ∧ Spec.C08.holdsFile out = true := by
  obtain ⟨s, a, hp, _⟩ := ex_run'
  have hfr := addContentE_of_accept (id := "1") hp
  obtain ⟨out, hout⟩ := C01.validateFile_ok HashOrder.id [] _
    (fun a ha => PipelineTotal.itemWF_arityOK a (ParseTyped.tree_arities (envOf doc1) "1" doc1 (envOf_ok doc1) _ a hfr ha))
  exact ⟨_, out, hfr, rfl, hout,
    PipelineTotal.C05_holds_of_parsed HashOrder.id [] _ out ⟨_, _, _, envOf_ok doc1, hfr⟩ hout,
    PipelineTotal.C08_holds_of_parsed HashOrder.id [] _ out ⟨_, _, _, envOf_ok doc1, hfr⟩ hout⟩

end Aidl.Props.Examples
