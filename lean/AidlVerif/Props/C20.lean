import AidlVerif.Spec.C20

/-!
# C20 — property theorems (about the model of `expected_token_str`)

The property as stated does NOT hold of the code (known finding K1): for three or more expected
tokens the wording omits the last-but-one. What is proved: the exact set of names the wording is
built from (`selected`), that it never contains a foreign name, that it is complete for up to two
tokens (`C20_partial`), that for three or more it is `v` without `v[len-2]` (`selected_drop`), and
the negation of the full statement with a concrete witness (`C20_negation`).

Nothing below uses `Spec/C20.lean` (`namedIn` reads the names back from the rendered text and is
evaluated by the driver, which reaches it through this import).
-/

namespace Aidl.Props.C20
open Aidl

/-- `many`: the words "one of"; `selected v` does not determine it, `[a, b]` and `[a, x, b]`
    select alike -/
def wording (many : Bool) (s : List String) : String :=
  match s with
  | [] => ""
  | [a] => "Expected " ++ a
  | _ => (if many then "Expected one of " else "Expected ") ++ joinWith ", " s.dropLast ++ " or "
          ++ s.getLast?.getD ""

theorem str_uses_selected (v : List String) :
    expectedTokenStr v = wording (decide (v.length ≥ 3)) (selected v) := by
  match v with
  | [] => rfl
  | [a] => rfl
  | [a, b] => simp [expectedTokenStr, wording, selected, joinWith]
  | a :: b :: c :: rest =>
    simp only [expectedTokenStr, selected]
    generalize hx : (a :: b :: c :: rest).getLast?.getD "" = x
    have hlen : (a :: b :: c :: rest).length - 2 = rest.length + 1 := by simp
    rw [hlen]
    have ht : List.take (rest.length + 1) (a :: b :: c :: rest) = a :: List.take rest.length (b :: c :: rest) := by
      simp [List.take_succ_cons]
    rw [ht]
    unfold wording
    cases htl : List.take rest.length (b :: c :: rest) with
    | nil => simp [joinWith]
    | cons y ys =>
      simp only [List.dropLast_concat, List.getLast?_concat]
      simp

theorem C20_partial (v : List String) (h : v.length ≤ 2) : selected v = v := by
  match v with
  | [] => rfl
  | [a] => rfl
  | [a, b] => rfl
  | _ :: _ :: _ :: _ => simp at h

theorem selected_drop (v : List String) (h : v.length ≥ 3) : selected v = v.eraseIdx (v.length - 2) := by
  match v with
  | [] => simp at h
  | [a] => simp at h
  | [a, b] => simp at h
  | a :: b :: c :: rest =>
    simp only [selected]
    rw [List.eraseIdx_eq_take_drop_succ]
    congr 1
    have hlen : (a :: b :: c :: rest).length - 2 + 1 = (a :: b :: c :: rest).length - 1 := by simp
    rw [hlen]
    have hne : (a :: b :: c :: rest) ≠ [] := by simp
    rw [List.getLast?_eq_some_getLast hne]
    simp only [Option.getD_some]
    rw [← List.length_dropLast]
    conv => rhs; arg 2; rw [← List.dropLast_concat_getLast hne]
    rw [List.drop_left]

theorem selected_sub (v : List String) : ∀ t ∈ selected v, t ∈ v := by
  intro t ht
  by_cases h : v.length ≤ 2
  · rwa [C20_partial v h] at ht
  · rw [selected_drop v (by omega)] at ht
    exact List.mem_of_mem_eraseIdx ht

theorem C20_negation : ¬ (∀ v : List String, ∀ t ∈ v, t ∈ selected v) := by
  intro h
  have := h ["A", "B", "C"] "B" (by simp)
  simp [selected] at this

/-- the same witness on the rendered message (the recovered names are evaluated by the driver's
    self-test: `Spec.C20.namedIn "Expected one of A or C" = [A, C]`) -/
example : expectedTokenStr ["A", "B", "C"] = "Expected one of A or C" := by decide

end Aidl.Props.C20
