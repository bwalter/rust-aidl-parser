import AidlVerif.Props.TypedCertDefs
namespace Aidl.Props.LrTyped
open Aidl Aidl.Props.Typed
/-- every action of the regenerated table type-checks against the Rust signatures (kernel evaluation, of the
    walk over the arrays that `actionsOk` equals) -/
theorem actions_typed : tt.actionsOk = true := by
  rw [TyTables.actionsOk_eq_walk]
  decide +kernel
end Aidl.Props.LrTyped
