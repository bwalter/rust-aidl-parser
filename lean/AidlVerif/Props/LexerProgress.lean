import AidlVerif.Props.LexerBounds

/-!
`lexNonNull table`: no entry that produces a token is nullable, a syntactic check that the kernel evaluates on the
regenerated table. Under it a token returned by `Matcher::next` leaves a strictly shorter rest, which is what makes the
parser's outer loop advance. That the skip loop does not run out of its step bound needs no property of the table.
-/

namespace Aidl.Props.LexerProgress
open Aidl.Regex Aidl.Lexer Aidl.Javadoc Aidl.Props.JavadocTotal Aidl.Props.RegexSound Aidl.Props.LexerBounds

def nullable : Re → Bool
  | .eps => true
  | .cls _ => false
  | .seq a b => nullable a && nullable b
  | .alt a b => nullable a || nullable b
  | .star _ => true

theorem matches_nil_nullable {r : Re} {w : List Char} (h : Matches r w) : w = [] → nullable r = true := by
  induction h with
  | eps => intro _; rfl
  | cls rs c _ => intro h; cases h
  | seq a b u v _ _ iha ihb =>
    intro h
    obtain ⟨hu, hv⟩ := List.append_eq_nil_iff.mp h
    simp [nullable, iha hu, ihb hv]
  | altL a b u _ ih => intro h; simp [nullable, ih h]
  | altR a b u _ ih => intro h; simp [nullable, ih h]
  | starNil a => intro _; rfl
  | starCons a u v _ _ _ _ => intro _; rfl

theorem matchAt_progress (r : Re) (fuel : Nat) (s : List Char) (p e : Nat) (hn : nullable r = false)
    (h : matchAt r fuel s p = some e) : p < e := by
  obtain ⟨w, s', _, hw, he⟩ := matchAt_sound r fuel s p e h
  have hne : w ≠ [] := fun h0 => by
    rw [matches_nil_nullable hw h0] at hn
    cases hn
  have := utf8Len_pos hne
  omega

def lexNonNull (table : LexTable) : Bool :=
  (List.range table.size).all fun i => table[i]!.2 || !nullable table[i]!.1

theorem next_progress (table : LexTable) (hnn : lexNonNull table = true) (fuel : Nat) :
    ∀ (s : List Char) (p : Nat) (t : Token) (rest : List Char),
      next table fuel s p = .token t rest → rest.length < s.length := by
  intro s p t rest h
  obtain ⟨sk, tok, rfl, _, _, _, hi, hns, hw⟩ : NextOk table _ p (.token t rest) := h ▸ next_ok table fuel s p
  have hnull : nullable table[t.index]!.1 = false := by
    simpa [hns] using (List.all_eq_true.mp hnn) t.index (List.mem_range.mpr hi)
  have hne : tok ≠ [] := fun h0 => by
    rw [matches_nil_nullable hw h0] at hnull
    cases hnull
  have := List.length_pos_iff.mpr hne
  simp only [List.length_append]
  omega

/-- `next` with the `0` case (the step bound is used up, `next` answers `InvalidToken`) made explicit as `none` -/
def nextE (table : LexTable) : Nat → List Char → Nat → Option LexResult
  | 0, _, _ => none
  | fuel + 1, s, p =>
    match s with
    | [] => some .eof
    | _ =>
      match bestMatch table (fuel + 1) s p with
      | none => some (.invalid p)
      | some (len, i) =>
        let parts := splitBytes len s
        if table[i]!.2 then
          if len = 0 then some (.invalid p) else nextE table fuel parts.2 (p + len)
        else some (.token { start := p, index := i, text := String.ofList parts.1, stop := p + len } parts.2)

theorem next_fuel_enough (table : LexTable) (fuel : Nat) :
    ∀ (s : List Char) (p : Nat), s.length < fuel → nextE table fuel s p = some (next table fuel s p) := by
  induction fuel with
  | zero => intro s p h; omega
  | succ fuel ih =>
    intro s p hlt
    by_cases hs : s = []
    · subst hs
      rw [next_nil, nextE]
    · rw [nextE]
      · cases hb : bestMatch table (fuel + 1) s p with
        | none => rw [next_none hs hb]
        | some b =>
          obtain ⟨L, j⟩ := b
          obtain ⟨_, ⟨pre, post, rfl, rfl, _, _⟩, _⟩ := bestMatch_some hb
          rw [next_step hs hb]
          simp only [splitBytes_prefix]
          split
          · split
            · rfl
            · rename_i hne
              apply ih
              have := List.length_pos_iff.mpr (fun h0 => hne (utf8Len_eq_zero.mpr h0))
              rw [List.length_append] at hlt
              omega
          · rfl
      · exact fun h => hs h

end Aidl.Props.LexerProgress
