import AidlVerif.Props.JavadocWords
import AidlVerif.Props.RegexEval

/-!
# C18 — `parse_javadoc` without regular expressions

Each of the three regular-expression searches of `parse_javadoc` equals, for EVERY text, a direct scanner that reads like
the rule it implements:

* `scanPar`   (`\r?\n[ \t*]*\r?\n`): a line break, blanks / stars, a line break;
* `scanNoise` (`[ \t\r\n*]*\n[ \t\r\n*]*`): a maximal run of blanks, stars and line breaks that holds a `\n`;
* `scanAt`    (`([^\n])[ \t]*@`): a character other than `\n`, blanks, `@`.

The proofs evaluate the backtracking matcher exactly (`starLoop_cls`: a `star` over a character class tries the longest
run first and then every shorter one), so they say which match the leftmost-first semantics picks, not only that one
exists.
-/

namespace Aidl.Props.JavadocSpec
open Aidl.Regex Aidl.Javadoc Aidl.Props.JavadocTotal
  Aidl.Props.JavadocWords

def cls5 : List (Nat × Nat) := [(32, 32), (9, 9), (13, 13), (10, 10), (42, 42)]
def isNoise (c : Char) : Bool := inCls cls5 c

theorem reLineNoise_eq : reLineNoise = .seq (.star (.cls cls5)) (.seq (.cls [(10, 10)]) (.star (.cls cls5))) := rfl

def kNoise (f : Nat) : K := fun s1 p1 => m (.seq (.cls [(10, 10)]) (.star (.cls cls5))) f s1 p1 acc

theorem kNoise_cons (f : Nat) (c : Char) (s : List Char) (p : Nat) :
    kNoise f (c :: s) p = if c = '\n' then starLoop (m (.cls cls5) f) acc f s (p + c.utf8Size) else none := by
  unfold kNoise
  simp only [m, inCls_chr (show '\n'.toNat = 10 from rfl), decide_eq_true_eq]

theorem tryFrom_kNoise (f : Nat) : ∀ (run rest : List Char) (p : Nat), run.length ≤ f →
    (∀ c ∈ run, isNoise c = true) → HeadOut cls5 rest →
      tryFrom (kNoise f) run rest p = if '\n' ∈ run then some (p + utf8Len run) else none := by
  intro run
  induction run with
  | nil =>
    intro rest p _ _ hout
    simp only [tryFrom, List.not_mem_nil, if_false]
    cases rest with
    | nil => simp [kNoise, m]
    | cons c t =>
      rw [kNoise_cons]
      have : c ≠ '\n' := by
        intro h; subst h
        have := hout _ t rfl
        revert this; decide
      simp [this]
  | cons c run ih =>
    intro rest p hlen hin hout
    have hlen' : run.length ≤ f := by simp at hlen; omega
    have hin' : ∀ d ∈ run, isNoise d = true := fun d hd => hin d (by simp [hd])
    simp only [tryFrom]
    rw [ih rest (p + c.utf8Size) hlen' hin' hout]
    by_cases hnl : '\n' ∈ run
    · simp only [hnl, if_true, List.mem_cons, or_true]
      rw [utf8Len_cons]; congr 1; omega
    · simp only [hnl, if_false]
      rw [List.cons_append, kNoise_cons]
      by_cases hc : c = '\n'
      · subst hc
        rw [if_pos rfl, starLoop_cls cls5 f acc run rest f _ hlen' hin' hout, tryFrom_first acc run rest _ _ rfl]
        simp only [List.mem_cons, true_or, if_true]
        rw [utf8Len_cons]; congr 1; omega
      · have : ¬ ('\n' ∈ c :: run) := by
          simp only [List.mem_cons, not_or]
          exact ⟨fun h => hc h.symm, hnl⟩
        simp [hc, this]

def noiseAt (s : List Char) (p : Nat) : Option Nat :=
  if '\n' ∈ s.takeWhile isNoise then some (p + utf8Len (s.takeWhile isNoise)) else none

theorem matchAt_noise (f : Nat) (s : List Char) (p : Nat) (hf : s.length ≤ f) :
    matchAt reLineNoise f s p = noiseAt s p := by
  unfold matchAt noiseAt
  rw [reLineNoise_eq, m_seq, m_star_cls cls5 f _ s p hf]
  exact tryFrom_kNoise f _ _ p (Nat.le_trans (List.takeWhile_sublist _).length_le hf)
    (fun c hc => mem_takeWhile_imp _ s c hc) (fun c t ht => dropWhile_head_not _ s c t ht)

def scanWith (at_ : List Char → Nat → Option Nat) : List Char → Nat → Option (Nat × Nat)
  | [], p => (at_ [] p).map (fun e => (p, e))
  | c :: s, p =>
    match at_ (c :: s) p with
    | some e => some (p, e)
    | none => scanWith at_ s (p + c.utf8Size)

theorem findFrom_scan (r : Re) (f : Nat) (at_ : List Char → Nat → Option Nat)
    (h : ∀ s p, s.length ≤ f → matchAt r f s p = at_ s p) :
    ∀ (s : List Char) (p : Nat), s.length ≤ f → findFrom r f s p = scanWith at_ s p := by
  intro s
  induction s with
  | nil => intro p hf; simp only [findFrom, scanWith, h [] p hf]
  | cons c s ih =>
    intro p hf
    simp only [findFrom, scanWith, h (c :: s) p hf]
    cases at_ (c :: s) p with
    | some e => rfl
    | none => exact ih _ (by simp at hf; omega)

theorem length_le_utf8Len (s : List Char) : s.length ≤ utf8Len s := by
  induction s with
  | nil => simp [utf8Len_nil]
  | cons c s ih => rw [utf8Len_cons, List.length_cons]; have := c.utf8Size_pos; omega

def nlPrefix : List Char → Option (List Char × Nat)
  | '\r' :: '\n' :: t => some (t, 2)
  | '\n' :: t => some (t, 1)
  | _ => none

theorem nlPrefix_none_of_head (c : Char) (t : List Char) (h1 : c ≠ '\r') (h2 : c ≠ '\n') : nlPrefix (c :: t) = none := by
  unfold nlPrefix
  split <;> simp_all

theorem nlPrefix_cr (d : Char) (u : List Char) (hd : d ≠ '\n') : nlPrefix ('\r' :: d :: u) = none := by
  unfold nlPrefix
  split <;> simp_all

theorem m_optcr_nl (f : Nat) (s : List Char) (p : Nat) (k : K) :
    m (.alt (.cls [(13, 13)]) .eps) f s p (fun s1 p1 => m (.cls [(10, 10)]) f s1 p1 k)
      = match nlPrefix s with
        | some (t, d) => k t (p + d)
        | none => none := by
  have h1 : ('\r' : Char).utf8Size = 1 := by decide
  have h2 : ('\n' : Char).utf8Size = 1 := by decide
  have hcr : ∀ d, inCls [(13, 13)] d = decide (d = '\r') := inCls_chr rfl
  have hnl : ∀ d, inCls [(10, 10)] d = decide (d = '\n') := inCls_chr rfl
  cases s with
  | nil => rfl
  | cons c t =>
    by_cases hr : c = '\r'
    · subst hr
      cases t with
      | nil => rfl
      | cons d u =>
        by_cases hd : d = '\n'
        · subst hd
          simp only [m, nlPrefix, hcr, hnl, h1, h2, Nat.add_assoc]
          cases k u (p + 2) <;> rfl
        · simp [m, hcr, hnl, nlPrefix_cr d u hd, hd]
    · by_cases hn : c = '\n'
      · subst hn
        simp [m, hcr, hnl, nlPrefix, h2]
      · simp [m, hcr, hnl, nlPrefix_none_of_head c t hr hn, hr, hn]

def cls3 : List (Nat × Nat) := [(32, 32), (9, 9), (42, 42)]
def isC3 (c : Char) : Bool := inCls cls3 c

theorem reParagraph_eq : reParagraph
    = .seq (.alt (.cls [(13, 13)]) .eps) (.seq (.cls [(10, 10)]) (.seq (.star (.cls cls3))
        (.seq (.alt (.cls [(13, 13)]) .eps) (.cls [(10, 10)])))) := rfl

def kPar2 (f : Nat) : K := fun s p => m (.seq (.alt (.cls [(13, 13)]) .eps) (.cls [(10, 10)])) f s p acc

theorem kPar2_eq (f : Nat) (s : List Char) (p : Nat) :
    kPar2 f s p = match nlPrefix s with
      | some (_, d) => some (p + d)
      | none => none := by
  unfold kPar2
  rw [m_seq, m_optcr_nl f s p acc]
  cases nlPrefix s with
  | none => rfl
  | some td => rfl

def parAt (s : List Char) (p : Nat) : Option Nat :=
  match nlPrefix s with
  | none => none
  | some (t1, d1) =>
    match nlPrefix (t1.dropWhile isC3) with
    | none => none
    | some (_, d2) => some (p + d1 + utf8Len (t1.takeWhile isC3) + d2)

theorem nlPrefix_length (s t : List Char) (d : Nat) (h : nlPrefix s = some (t, d)) : t.length ≤ s.length := by
  unfold nlPrefix at h
  split at h
  · cases h; simp; omega
  · cases h; simp
  · cases h

theorem matchAt_par (f : Nat) (s : List Char) (p : Nat) (hf : s.length ≤ f) : matchAt reParagraph f s p = parAt s p := by
  unfold matchAt parAt
  rw [reParagraph_eq, m_seq]
  show m (.alt (.cls [(13, 13)]) .eps) f s p (fun s1 p1 => m (.cls [(10, 10)]) f s1 p1
    (fun s2 p2 => m (.seq (.star (.cls cls3)) (.seq (.alt (.cls [(13, 13)]) .eps) (.cls [(10, 10)]))) f s2 p2 acc)) = _
  rw [m_optcr_nl f s p]
  cases hn : nlPrefix s with
  | none => rfl
  | some td =>
    obtain ⟨t1, d1⟩ := td
    simp only
    rw [m_seq, m_star_cls cls3 f _ t1 _ (Nat.le_trans (nlPrefix_length s t1 d1 hn) hf)]
    show tryFrom (kPar2 f) (t1.takeWhile isC3) (t1.dropWhile isC3) (p + d1) = _
    -- a blank or star begins no line break, so only the whole run is followed by one
    rw [tryFrom_last (kPar2 f) _ _ _ (fun c hc t q => ?_), kPar2_eq]
    · cases nlPrefix (t1.dropWhile isC3) with
      | none => rfl
      | some td2 => rfl
    · have hc3 := mem_takeWhile_imp isC3 t1 c hc
      rw [kPar2_eq, nlPrefix_none_of_head c t (by rintro rfl; revert hc3; decide) (by rintro rfl; revert hc3; decide)]

/-- a blank of `reBeforeAt`: space or tab -/
def isWs (c : Char) : Bool := inCls ws4 c

theorem reBeforeAt_eq : reBeforeAt
    = .seq (.cls [(0, 9), (11, 0x10FFFF)]) (.seq (.star (.cls ws4)) (.cls [(64, 64)])) := rfl

def atAt (s : List Char) (p : Nat) : Option Nat :=
  match s with
  | [] => none
  | c :: t =>
    if c = '\n' then none else
    match t.dropWhile isWs with
    | d :: _ => if d = '@' then some (p + c.utf8Size + utf8Len (t.takeWhile isWs) + 1) else none
    | [] => none

theorem inCls_notnl (c : Char) : inCls [(0, 9), (11, 0x10FFFF)] c = true ↔ c ≠ '\n' := by
  have hv := valid_lt c
  rw [Ne, ← Char.toNat_inj]
  simp only [inCls, List.any_cons, List.any_nil, Bool.or_false, Bool.or_eq_true, Bool.and_eq_true, decide_eq_true_eq]
  show _ ↔ ¬ c.toNat = 10
  omega

theorem matchAt_at (f : Nat) (s : List Char) (p : Nat) (hf : s.length ≤ f) : matchAt reBeforeAt f s p = atAt s p := by
  unfold matchAt
  rw [reBeforeAt_eq]
  cases s with
  | nil => rfl
  | cons c t =>
    rw [m_seq, m_cls_cons]
    by_cases hc : c = '\n'
    · subst hc
      rfl
    · rw [if_pos ((inCls_notnl c).mpr hc)]
      simp only [atAt, if_neg hc]
      exact m_star_then_chr ws4 '@' 64 rfl (by decide) f t _ (by simp at hf; omega)

def scanPar (s : List Char) : Option (Nat × Nat) := scanWith parAt s 0
def scanNoise (s : List Char) : Option (Nat × Nat) := scanWith noiseAt s 0
def scanAt (s : List Char) : Option (Nat × Nat) := scanWith atAt s 0

theorem find_par (s : List Char) : findFrom reParagraph (utf8Len s) s 0 = scanPar s :=
  findFrom_scan _ _ parAt (fun s p h => matchAt_par _ s p h) s 0 (length_le_utf8Len s)

theorem find_noise (s : List Char) : findFrom reLineNoise (utf8Len s) s 0 = scanNoise s :=
  findFrom_scan _ _ noiseAt (fun s p h => matchAt_noise _ s p h) s 0 (length_le_utf8Len s)

theorem find_at (s : List Char) : findFrom reBeforeAt (utf8Len s) s 0 = scanAt s :=
  findFrom_scan _ _ atAt (fun s p h => matchAt_at _ s p h) s 0 (length_le_utf8Len s)

def splitWith (find : List Char → Option (Nat × Nat)) : Nat → List Char → List (List Char)
  | 0, s => [s]
  | fuel + 1, s =>
    match find s with
    | some (a, b) => if b = a then [s] else takeBytes a s :: splitWith find fuel (dropBytes b s)
    | none => [s]

def replaceWith (find : List Char → Option (Nat × Nat)) (rep : List Char → List Char) : Nat → List Char → List Char
  | 0, s => s
  | fuel + 1, s =>
    match find s with
    | some (a, b) =>
      if b = a then s
      else takeBytes a s ++ rep (takeBytes (b - a) (dropBytes a s)) ++ replaceWith find rep fuel (dropBytes b s)
    | none => s

theorem splitRe_eq (r : Re) (find : List Char → Option (Nat × Nat)) (h : ∀ s, findFrom r (utf8Len s) s 0 = find s) :
    ∀ (n : Nat) (s : List Char), splitRe r n s = splitWith find n s := by
  intro n
  induction n with
  | zero => intro s; rfl
  | succ n ih =>
    intro s
    rw [splitRe, splitWith, h s]
    cases find s with
    | none => rfl
    | some ab =>
      obtain ⟨a, b⟩ := ab
      simp only
      split
      · rfl
      · rw [ih]

theorem replaceAll_eq (r : Re) (rep : List Char → List Char) (find : List Char → Option (Nat × Nat))
    (h : ∀ s, findFrom r (utf8Len s) s 0 = find s) :
    ∀ (n : Nat) (s : List Char), replaceAll r rep n s = replaceWith find rep n s := by
  intro n
  induction n with
  | zero => intro s; rfl
  | succ n ih =>
    intro s
    rw [replaceAll, replaceWith, h s]
    cases find s with
    | none => rfl
    | some ab =>
      obtain ⟨a, b⟩ := ab
      simp only
      split
      · rfl
      · rw [ih]

/-- `parse_javadoc` over the three scanners: no expression, no matcher, no star bound -/
def parseJavadocSpec (s : List Char) : List Char :=
  let n := s.length + 1
  let paragraphs := splitWith scanPar n s
  let lines := paragraphs.map fun p =>
    let t := trimMatches p
    let t := replaceWith scanNoise (fun _ => [' ']) n t
    replaceWith scanAt (fun m => (m.take 1) ++ ['\n', '@']) n t
  intercalate ['\n'] lines

theorem parseJavadoc_eq_spec (s : List Char) : parseJavadoc s = parseJavadocSpec s := by
  unfold parseJavadoc parseJavadocSpec
  simp only
  rw [splitRe_eq reParagraph scanPar find_par]
  congr 1
  apply List.map_congr_left
  intro p _
  rw [replaceAll_eq reLineNoise _ scanNoise find_noise, replaceAll_eq reBeforeAt _ scanAt find_at]

/-- the body of `C18.paragraphs_and_tags` -/
example : parseJavadocSpec "\r\n * Größe 日本\r\n * 🎉 ok\r\n *\r\n * second\r\n * @param x é\r\n ".toList
    = "Größe 日本 🎉 ok\nsecond\n@param x é".toList := by
  rw [String.toList_ofList, String.toList_ofList]
  decide +kernel

end Aidl.Props.JavadocSpec
