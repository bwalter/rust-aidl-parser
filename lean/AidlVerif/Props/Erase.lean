import AidlVerif.Model.Actions

/-!
`erAidl` keeps everything of a tree except ranges and attached documentation (C02: "apart from
positions and attached documentation"). `erVal` extends it to the parser's semantic values:
locations become 0, an error-recovery record becomes a fixed one.
-/

namespace Aidl.Erase
open Aidl Aidl.Actions Aidl.Lexer

def R0 : Range := default

mutual
def erTy : Ty → Ty
  | .mk n k g _ _ => .mk n k (erTys g) R0 R0
def erTys : List Ty → List Ty
  | [] => []
  | t :: ts => erTy t :: erTys ts
end

theorem erTys_eq (l : List Ty) : erTys l = l.map erTy := by
  induction l with
  | nil => rfl
  | cons t ts ih => simp [erTys, ih]

def erDir : Direction → Direction
  | .in_ _ => .in_ R0
  | .out _ => .out R0
  | .inout _ => .inout R0
  | .unspecified => .unspecified

def erArg (a : Arg) : Arg :=
  { a with direction := erDir a.direction, argType := erTy a.argType, doc := none, sym := R0, full := R0 }

def erMethod (m : Method) : Method :=
  { m with returnType := erTy m.returnType, args := m.args.map erArg, doc := none, sym := R0, full := R0,
           transactCodeRange := R0, onewayRange := R0 }

def erConst (c : Const) : Const := { c with constType := erTy c.constType, doc := none, sym := R0, full := R0 }
def erField (f : Field) : Field := { f with fieldType := erTy f.fieldType, doc := none, sym := R0, full := R0 }
def erEnumEl (e : EnumElement) : EnumElement := { e with doc := none, sym := R0, full := R0 }

def erIel : InterfaceElement → InterfaceElement
  | .const c => .const (erConst c)
  | .method m => .method (erMethod m)
def erPel : ParcelableElement → ParcelableElement
  | .const c => .const (erConst c)
  | .field f => .field (erField f)

def erIface (i : Interface) : Interface := { i with elements := i.elements.map erIel, doc := none, sym := R0, full := R0 }
def erParc (p : Parcelable) : Parcelable := { p with elements := p.elements.map erPel, doc := none, sym := R0, full := R0 }
def erEnm (e : Enum) : Enum := { e with elements := e.elements.map erEnumEl, doc := none, sym := R0, full := R0 }

def erItem : Item → Item
  | .interface i => .interface (erIface i)
  | .parcelable p => .parcelable (erParc p)
  | .enum e => .enum (erEnm e)

def erPackage (p : Package) : Package := { p with sym := R0, full := R0 }
def erImport (i : Import) : Import := { i with sym := R0, full := R0 }

def erAidl (a : AidlFile) : AidlFile :=
  { package := erPackage a.package, imports := a.imports.map erImport,
    declaredParcelables := a.declaredParcelables.map erImport, item := erItem a.item }

mutual
def erVal : Val → Val
  | .tok s => .tok s
  | .loc _ => .loc 0
  | .str s => .str s
  | .none_ => .none_
  | .some_ v => .some_ (erVal v)
  | .list l => .list (erVals l)
  | .pair a b => .pair (erVal a) (erVal b)
  | .recovery _ _ => .recovery (.invalidToken 0) []
  | .package p => .package (erPackage p)
  | .import_ i => .import_ (erImport i)
  | .ty t => .ty (erTy t)
  | .dir d => .dir (erDir d)
  | .ann a => .ann a
  | .arg a => .arg (erArg a)
  | .method m => .method (erMethod m)
  | .const c => .const (erConst c)
  | .field f => .field (erField f)
  | .enumEl e => .enumEl (erEnumEl e)
  | .iel e => .iel (erIel e)
  | .pel e => .pel (erPel e)
  | .iface i => .iface (erIface i)
  | .parc p => .parc (erParc p)
  | .enm e => .enm (erEnm e)
  | .item i => .item (erItem i)
  | .aidl a => .aidl (erAidl a)
def erVals : List Val → List Val
  | [] => []
  | v :: vs => erVal v :: erVals vs
end

theorem erVals_eq (l : List Val) : erVals l = l.map erVal := by
  induction l with
  | nil => rfl
  | cons t ts ih => simp [erVals, ih]

def erArgV : ArgV → ArgV
  | .triple _ v _ => .triple 0 (erVal v) 0
  | .locRef _ => .locRef 0

end Aidl.Erase
