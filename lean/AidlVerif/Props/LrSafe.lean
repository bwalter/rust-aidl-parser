import AidlVerif.Props.LrCert
import AidlVerif.Lemmas.Checks
import AidlVerif.Props.LrDriver

/-!
`Chain`: adjacent entries of the two stacks are linked by certified transitions, and the bottom state is 0. With
`Cert.ok` every reduction the tables can trigger finds exactly its right-hand side on the stack and leaves a chain
(`reduce_chain`: what a certified reduction does, stated once); so do a shift and the push of `error`. That a run never
ends in a panic of the driver follows in `LrInv.parse_outcome_good`.
-/

namespace Aidl.Props.LrSafe
open Aidl Aidl.Lr Aidl.Actions Aidl.Lexer Aidl.Props.LrDriver

variable (T : Tables) (C : Cert)

inductive Chain : List Nat → List Sym → Prop
  | base : Chain [0] []
  | step {q : Nat} {qs : List Nat} {X : Sym} {t : Nat} {syms : List Sym} :
      Chain (q :: qs) syms → C.hasEdge q X.id t = true → Chain (t :: q :: qs) (X :: syms)

theorem Chain.length {C : Cert} {st : List Nat} {sy : List Sym} (h : Chain C st sy) : st.length = sy.length + 1 := by
  induction h with
  | base => rfl
  | step _ _ ih => simp [ih]

theorem Chain.top {C : Cert} {s : St} (hc : Chain C s.states s.syms) : ∃ st, s.states = topState s :: st := by
  unfold topState
  cases hc' : s.states with
  | nil => have := hc.length; rw [hc'] at this; simp at this
  | cons t st => exact ⟨st, rfl⟩

theorem Chain.drop {C : Cert} {st : List Nat} {sy : List Sym} (h : Chain C st sy) :
    ∀ n, n ≤ sy.length → Chain C (st.drop n) (sy.drop n) := by
  induction h with
  | base => intro n hn; have : n = 0 := by simpa using hn
            subst this; exact Chain.base
  | step hc he ih =>
    intro n hn
    cases n with
    | zero => exact Chain.step hc he
    | succ n => simpa using ih n (by simpa using hn)

structure CertFacts : Prop where
  ncols_pos : 0 < T.ncols
  shift : ∀ q col t, asShift (actionAt T q col) = some t → C.hasEdge q col t = true
  edge : ∀ q x t, C.hasEdge q x t = true → t ≠ 0 ∧ C.accOf t = x ∧ q ∈ C.predsOf t
  red : ∀ t col p, asReduce (actionAt T t col) = some p → C.redOK T t p = true
  redEof : ∀ t p, asReduce (eofActionAt T t) = some p → C.redOK T t p = true
  redMem : ∀ t col p, asReduce (actionAt T t col) = some p → p ∈ C.redsOf t ∧ t < C.reds.size
  redEofMem : ∀ t p, asReduce (eofActionAt T t) = some p → p ∈ C.redsOf t ∧ t < C.reds.size

theorem certFacts (h : C.ok T = true) : CertFacts T C := by
  unfold Cert.ok at h
  simp only [Bool.and_eq_true, decide_eq_true_eq] at h
  obtain ⟨⟨⟨⟨hpos, hrows⟩, heof⟩, hedges⟩, hreds⟩ := h
  have hsize : ∀ t p, p ∈ C.redsOf t → t < C.reds.size := fun t p hmem => Checks.lt_size_of_mem_getD hmem
  have hred : ∀ t p, p ∈ C.redsOf t → C.redOK T t p = true := fun t p hmem =>
    List.all_eq_true.mp (Checks.all_range hreds (hsize t p hmem)) p hmem
  have hentry : ∀ q col, actionAt T q col ≠ 0 →
      C.shiftOK q col (actionAt T q col) = true ∧ C.actOK q (actionAt T q col) = true := by
    intro q col hne
    obtain ⟨row, h1, h2⟩ := actionAt_entry T hne
    have := Checks.all_zipIdx (Checks.all_zipIdx hrows h1) h2
    simpa only [Bool.and_eq_true] using this
  have hmemA : ∀ t col p, asReduce (actionAt T t col) = some p → p ∈ C.redsOf t := by
    intro t col p hr
    have := (hentry t col (asReduce_ne_zero hr)).2
    unfold Cert.actOK at this
    simpa [hr] using this
  have hmemE : ∀ t p, asReduce (eofActionAt T t) = some p → p ∈ C.redsOf t := by
    intro t p hr
    have hne := asReduce_ne_zero hr
    unfold eofActionAt at hne hr
    cases he : T.eof[t]? with
    | none => simp [he] at hne
    | some a =>
      have := Checks.all_zipIdx heof he
      simp only [he, Option.getD] at hr
      unfold Cert.actOK at this
      simpa [hr] using this
  refine ⟨hpos, ?_, ?_, fun t col p hr => hred t p (hmemA t col p hr), fun t p hr => hred t p (hmemE t p hr),
    fun t col p hr => ⟨hmemA t col p hr, hsize t p (hmemA t col p hr)⟩,
    fun t p hr => ⟨hmemE t p hr, hsize t p (hmemE t p hr)⟩⟩
  · intro q col t hs
    have := (hentry q col (asShift_ne_zero hs)).1
    unfold Cert.shiftOK at this
    simpa [hs] using this
  · intro q x t he
    unfold Cert.hasEdge at he
    have hmem : (x, t) ∈ C.succOf q := by simpa using he
    have := List.all_eq_true.mp (Checks.all_range hedges (Checks.lt_size_of_mem_getD hmem)) (x, t) hmem
    simp only [Bool.and_eq_true, bne_iff_ne, ne_eq, beq_iff_eq, List.contains_eq_mem, decide_eq_true_eq] at this
    exact ⟨this.1.1, this.1.2, this.2⟩

/-- the certificate walks back over ALL predecessors (`qs`, then `q0s`); the stack is one path through them, hence `t ∈ qs` -/
theorem backWalk_sound (F : CertFacts T C) :
    ∀ (rev : List Nat) (qs : List Nat) (t : Nat) (st : List Nat) (sy : List Sym) (q0s : List Nat),
      Chain C (t :: st) sy → t ∈ qs → C.backWalk qs rev = some q0s →
      rev.length ≤ sy.length ∧ (sy.take rev.length).map (·.id) = rev
      ∧ ∃ q0 rest, (t :: st).drop rev.length = q0 :: rest ∧ q0 ∈ q0s := by
  intro rev
  induction rev with
  | nil =>
    intro qs t st sy q0s _ ht hb
    simp only [Cert.backWalk, Option.some.injEq] at hb
    subst hb
    exact ⟨Nat.zero_le _, by simp, t, st, rfl, ht⟩
  | cons x rest ih =>
    intro qs t st sy q0s hc ht hb
    simp only [Cert.backWalk] at hb
    split at hb
    · rename_i hall
      have hq := (List.all_eq_true.mp hall) t ht
      simp only [Bool.and_eq_true, bne_iff_ne, ne_eq, beq_iff_eq] at hq
      obtain ⟨ht0, hacc⟩ := hq
      cases hc with
      | base => exact absurd rfl ht0
      | step hc' he =>
        rename_i q qs' X syms
        obtain ⟨_, hax, hpred⟩ := F.edge q X.id t he
        have hX : X.id = x := by rw [← hax, hacc]
        have hmem : q ∈ Cert.dedup (qs.flatMap C.predsOf) :=
          (Cert.mem_dedup q _).mpr (List.mem_flatMap.mpr ⟨t, ht, hpred⟩)
        obtain ⟨h1, h2, q0, r, h3, h4⟩ := ih _ q qs' syms q0s hc' hmem hb
        refine ⟨by simpa using h1, ?_, q0, r, ?_, h4⟩
        · simp only [List.length_cons, List.take_succ_cons, List.map_cons, hX, h2]
        · simpa using h3
    · cases hb

theorem Chain.bottom (F : CertFacts T C) {st : List Nat} {sy : List Sym} (h : Chain C (0 :: st) sy) : st = [] ∧ sy = [] := by
  cases h with
  | base => exact ⟨rfl, rfl⟩
  | step hc he => exact absurd rfl (F.edge _ _ _ he).1

def popped (s : St) (prod : Production) : List Sym := (s.syms.take prod.rhs.length).reverse

/-- the call of `evalAction` in `Lr.reduceCore`; 16 is the nesting bound it hands over -/
def runAction (env : Env) (s : St) (prod : Production) (la : Option Nat) : Except Panic (Val × List Diag) :=
  let start := reduceStart (popped s prod) (s.syms.drop prod.rhs.length) la
  (evalAction T.actions 16 prod.action (reduceArgs (popped s prod) start (reduceStop (popped s prod) start))).run env
    |>.run s.diags

def lhsSym (s : St) (prod : Production) (la : Option Nat) (v : Val) : Sym :=
  let start := reduceStart (popped s prod) (s.syms.drop prod.rhs.length) la
  { start, id := T.ncols + prod.nt, name := prod.lhs, val := v, stop := reduceStop (popped s prod) start,
    toks := (popped s prod).flatMap (·.toks) }

inductive Reduced (env : Env) (s : St) (prod : Production) (la : Option Nat) : St × Option Outcome → Prop
  | stop {e} : runAction T env s prod la = .error e → Reduced env s prod la (s, some (.actionPanic e))
  | accept {v ds} : runAction T env s prod la = .ok (v, ds) → prod.accept = true → s.syms.drop prod.rhs.length = [] →
      Reduced env s prod la ({ s with diags := ds, syms := [] }, some (.accept v))
  | goOn {v ds} (g : Nat) : runAction T env s prod la = .ok (v, ds) → prod.accept = false →
      g = gotoOf T ((s.states.drop prod.pops).headD 0) prod.nt →
      Chain C (g :: s.states.drop prod.pops) (lhsSym T s prod la v :: s.syms.drop prod.rhs.length) →
      Reduced env s prod la ({ s with diags := ds, syms := lhsSym T s prod la v :: s.syms.drop prod.rhs.length,
                                      states := g :: s.states.drop prod.pops }, none)

theorem redOK_spec (F : CertFacts T C) {t : Nat} {st : List Nat} {sy : List Sym} {p : Nat}
    (hc : Chain C (t :: st) sy) (hred : C.redOK T t p = true) :
    ∃ prod q0 rest, T.prods[p]? = some prod ∧ prod.rhs.length = prod.rhsIds.length ∧ prod.pops = prod.rhsIds.length
      ∧ prod.rhsIds.length ≤ sy.length ∧ ((sy.take prod.rhsIds.length).reverse).map (·.id) = prod.rhsIds
      ∧ (t :: st).drop prod.rhsIds.length = q0 :: rest
      ∧ (if prod.accept then q0 = 0 else C.hasEdge q0 (T.ncols + prod.nt) (gotoOf T q0 prod.nt) = true) := by
  unfold Cert.redOK at hred
  cases hp : T.prods[p]? with
  | none => simp [hp] at hred
  | some prod =>
    simp only [hp, Bool.and_eq_true, beq_iff_eq] at hred
    obtain ⟨⟨hlen1, hlen2⟩, hbw⟩ := hred
    cases hb : C.backWalk [t] prod.rhsIds.reverse with
    | none => simp [hb] at hbw
    | some q0s =>
      simp only [hb] at hbw
      obtain ⟨h1, h2, q0, r, h3, h4⟩ := backWalk_sound T C F _ [t] t st sy q0s hc (by simp) hb
      simp only [List.length_reverse] at h1 h2 h3
      refine ⟨prod, q0, r, rfl, hlen1, hlen2, h1, by rw [List.map_reverse, h2, List.reverse_reverse], h3, ?_⟩
      split
      · rename_i hacc
        rw [if_pos hacc] at hbw
        simpa using (List.all_eq_true.mp hbw) q0 h4
      · rename_i hacc
        rw [if_neg hacc] at hbw
        exact (List.all_eq_true.mp hbw) q0 h4

theorem reduce_chain (F : CertFacts T C) (env : Env) (s : St) (p : Nat) (la : Option Nat)
    (hc : Chain C s.states s.syms) (hred : C.redOK T (topState s) p = true) :
    ∃ prod, T.prods[p]? = some prod ∧ (popped s prod).map (·.id) = prod.rhsIds
      ∧ Reduced T C env s prod la (reduce T env s p la) := by
  obtain ⟨st, hst⟩ := hc.top
  obtain ⟨prod, q0, r, hp, hlen1, hlen2, h1, h2, h3, hq0⟩ := redOK_spec T C F (hst ▸ hc) hred
  rw [← hlen1] at h1 h2 h3
  rw [← hst] at h3
  have hdrop := hc.drop prod.rhs.length h1
  rw [h3] at hdrop
  refine ⟨prod, hp, h2, ?_⟩
  have hk : ¬ s.syms.length < prod.rhs.length := by omega
  have hne : ¬ ((popped s prod).map (·.id) != prod.rhsIds) = true := by simp [popped, h2]
  unfold reduce
  simp only [hp, hk, if_false]
  rw [← popped, if_neg hne]
  unfold reduceCore reducePush
  dsimp only
  rw [← popped]
  -- what `reduceCore` matches on is `runAction`, unfolded
  split
  · rename_i e he
    exact .stop he
  · rename_i v ds he
    by_cases hacc : prod.accept = true
    · rw [if_pos hacc] at hq0 ⊢
      subst hq0
      have hempty := (Chain.bottom T C F hdrop).2
      rw [hempty]
      exact .accept he hacc hempty
    · rw [if_neg hacc] at hq0 ⊢
      have hlen := hc.length
      rw [if_neg (by omega)]
      refine .goOn _ he (by simpa using hacc) rfl ?_
      rw [hlen2, ← hlen1, h3]
      exact Chain.step hdrop hq0

def DriverOk : Outcome → Prop
  | .panic _ => False
  | _ => True

/-- `reduce_chain` with `Reduced` written out, for a caller that has the top state in hand -/
theorem reduce_safe (F : CertFacts T C) (env : Env) (s : St) (t : Nat) (st : List Nat) (p : Nat) (la : Option Nat)
    (hst : s.states = t :: st) (hc : Chain C s.states s.syms) (hred : C.redOK T t p = true) :
    ∃ prod, T.prods[p]? = some prod ∧ prod.rhs.length ≤ s.syms.length
      ∧ (((s.syms.take prod.rhs.length).reverse).map (·.id) = prod.rhsIds ∧ prod.rhs.length = prod.rhsIds.length)
      ∧ reduce T env s p la = reduceCore T env s prod la
      ∧ (∀ s' o, reduce T env s p la = (s', some o) → DriverOk o)
      ∧ (∀ s', reduce T env s p la = (s', none) → Chain C s'.states s'.syms) := by
  have ht := topState_of_cons hst
  obtain ⟨prod, _, _, hp, hlen, _, hk, hids, _⟩ := redOK_spec T C F (hst ▸ hc) hred
  obtain ⟨prod', hp', _, hr⟩ := reduce_chain T C F env s p la hc (ht ▸ hred)
  cases hp.symm.trans hp'
  rw [← hlen] at hk hids
  refine ⟨prod, hp, hk, ⟨hids, hlen⟩, ?_, ?_, ?_⟩
  · unfold reduce
    simp only [hp, Nat.not_lt.mpr hk, if_false]
    rw [if_neg (by simp [hids])]
  · intro s' o h
    rw [h] at hr
    cases hr <;> trivial
  · intro s' h
    rw [h] at hr
    cases hr with
    | goOn g _ _ _ hc' => exact hc'

theorem redOK_of_fires (F : CertFacts T C) {q r : Nat} {col : Option Nat}
    (h : asReduce (LrComplete.laAction T q col) = some r ∨ asReduce (errorAction T q) = some r) : C.redOK T q r = true := by
  rcases h with h | h
  · cases col with
    | none => exact F.redEof _ _ h
    | some c => exact F.red _ _ _ h
  · exact F.red _ _ _ h

theorem chain_shifted (F : CertFacts T C) {s : St} (hc : Chain C s.states s.syms) {c target : Nat}
    (hs : asShift (actionAt T (topState s) c) = some target) (l : Token) :
    Chain C (shifted T s l c target).states (shifted T s l c target).syms := by
  obtain ⟨st, hst⟩ := hc.top
  show Chain C (target :: s.states) (_ :: s.syms)
  rw [hst] at hc ⊢
  exact Chain.step hc (F.shift _ _ _ hs)

/-- `recoverPush` truncates both stacks at the same height and shifts `error` -/
theorem chain_pushed (F : CertFacts T C) {s : St} (hc : Chain C s.states s.syms) {top errState : Nat}
    (htop : top < s.states.length)
    (hsh : asShift (errorAction T ((s.states.drop (s.states.length - 1 - top)).headD 0)) = some errState)
    (e : ParseErr) (la : Option Token) (d : List Token) :
    (s.syms.reverse.take top).reverse = s.syms.drop (s.states.length - 1 - top)
    ∧ Chain C (pushed T e s top la d errState).states (pushed T e s top la d errState).syms := by
  have hsl := hc.length
  have hsyms : (s.syms.reverse.take top).reverse = s.syms.drop (s.states.length - 1 - top) := by
    rw [List.take_reverse, List.reverse_reverse]
    congr 1
    omega
  refine ⟨hsyms, ?_⟩
  have hdrop := hc.drop (s.states.length - 1 - top) (by omega)
  unfold pushed
  dsimp only
  rw [hsyms]
  cases hq : s.states.drop (s.states.length - 1 - top) with
  | nil =>
    have := congrArg List.length hq
    simp only [List.length_drop, List.length_nil] at this
    omega
  | cons q rest =>
    rw [hq] at hsh hdrop
    exact Chain.step hdrop (F.shift q (T.ncols - 1) errState hsh)

end Aidl.Props.LrSafe
