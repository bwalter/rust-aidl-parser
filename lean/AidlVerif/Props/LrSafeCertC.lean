import AidlVerif.Props.LrSafeCertDefs
import AidlVerif.Lemmas.Checks
namespace Aidl.Props.LrSafe
open Aidl Aidl.Lr
theorem reds_ok : Cert.redsOK Driver.Parse.tables cert = true := by
  unfold Cert.redsOK Cert.redsOf
  rw [Checks.all_range_rows]
  unfold Cert.redOK Cert.hasEdge Cert.succOf
  simp only [Cert.backWalk_eq, ← Array.getElem?_toList]
  decide +kernel
end Aidl.Props.LrSafe
