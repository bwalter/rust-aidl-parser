import AidlVerif.Model.Lexer
import AidlVerif.Props.RegexSound

/-!
For every lexer table and every input. `bestMatch` returns the longest match and, among the entries that match that much,
the last one, and conversely. `next_ok` is the one induction over the skip loop of `Matcher::next`: a token is the slice
behind the skipped text, on character boundaries, and a word of the language of a non-skipped entry; the location of an
`InvalidToken` is a character boundary.
-/

namespace Aidl.Props.LexerBounds
open Aidl.Regex Aidl.Lexer Aidl.Javadoc Aidl.Props.JavadocTotal Aidl.Props.RegexSound

theorem matchAt_prefix (r : Re) (fuel : Nat) (s : List Char) (p e : Nat) (h : matchAt r fuel s p = some e) :
    ∃ pre post, s = pre ++ post ∧ e = p + utf8Len pre := by
  obtain ⟨w, s', hs, _, he⟩ := matchAt_sound r fuel s p e h
  exact ⟨w, s', hs, he⟩

theorem splitBytes_eq : ∀ (n : Nat) (s : List Char), splitBytes n s = (takeBytes n s, dropBytes n s)
  | 0, s => by cases s <;> rfl
  | _ + 1, [] => rfl
  | n + 1, c :: s => by rw [splitBytes, splitBytes_eq, takeBytes, dropBytes]

theorem splitBytes_prefix (pre rest : List Char) : splitBytes (utf8Len pre) (pre ++ rest) = (pre, rest) := by
  rw [splitBytes_eq, takeBytes_prefix, dropBytes_prefix]

/-- the invariant of the fold over the first `n` entries -/
def Best (table : LexTable) (f : Nat) (s : List Char) (p n : Nat) : Option (Nat × Nat) → Prop
  | none => ∀ i, i < n → matchAt table[i]!.1 f s p = none
  | some (L, j) => j < n ∧ matchAt table[j]!.1 f s p = some (p + L) ∧
      ∀ i e, i < n → matchAt table[i]!.1 f s p = some e → e ≤ p + L ∧ (j < i → e < p + L)

theorem bestMatch_best (table : LexTable) (f : Nat) (s : List Char) (p : Nat) :
    Best table f s p table.size (bestMatch table f s p) := by
  unfold bestMatch
  generalize table.size = n
  induction n with
  | zero => exact fun i hi => absurd hi (Nat.not_lt_zero _)
  | succ n ih =>
    rw [List.range_succ, List.foldl_append, List.foldl_cons, List.foldl_nil]
    generalize List.foldl _ none (List.range n) = b at ih
    have ext : ∀ {L j : Nat}, (∀ i e, i < n → matchAt table[i]!.1 f s p = some e → e ≤ p + L ∧ (j < i → e < p + L)) →
        (∀ e, matchAt table[n]!.1 f s p = some e → e ≤ p + L ∧ (j < n → e < p + L)) →
        ∀ i e, i < n + 1 → matchAt table[i]!.1 f s p = some e → e ≤ p + L ∧ (j < i → e < p + L) :=
      fun h1 h2 i e hi he => (Nat.lt_succ_iff_lt_or_eq.mp hi).elim (fun h => h1 i e h he) (fun h => by subst h; exact h2 e he)
    cases hm : matchAt table[n]!.1 f s p with
    | none =>
      dsimp only
      cases b with
      | none => exact fun i hi => (Nat.lt_succ_iff_lt_or_eq.mp hi).elim (ih i) (fun h => h ▸ hm)
      | some b => exact ⟨Nat.lt_succ_of_lt ih.1, ih.2.1, ext ih.2.2 (fun e he => by rw [hm] at he; cases he)⟩
    | some e =>
      obtain ⟨pre, _, _, rfl⟩ := matchAt_prefix _ _ _ _ _ hm
      simp only [Nat.add_sub_cancel_left]
      have hn : ∀ e, matchAt table[n]!.1 f s p = some e → e = p + utf8Len pre := fun e he => by
        rw [hm] at he
        exact (Option.some.inj he).symm
      cases b with
      | none =>
        refine ⟨Nat.lt_succ_self n, hm, ext (fun i e h he => ?_) (fun e he => by have := hn e he; omega)⟩
        rw [ih i h] at he
        cases he
      | some b =>
        obtain ⟨hj, hfull, hmax⟩ := ih
        dsimp only
        split
        · exact ⟨Nat.lt_succ_self n, hm, ext (fun i e h he => by have := (hmax i e h he).1; omega)
            (fun e he => by have := hn e he; omega)⟩
        · exact ⟨Nat.lt_succ_of_lt hj, hfull, ext hmax (fun e he => by have := hn e he; omega)⟩

theorem bestMatch_none {table : LexTable} {f : Nat} {s : List Char} {p : Nat} (h : bestMatch table f s p = none) :
    ∀ i, i < table.size → matchAt table[i]!.1 f s p = none := by
  have := bestMatch_best table f s p
  rw [h] at this
  exact this

theorem bestMatch_some {table : LexTable} {f : Nat} {s : List Char} {p L j : Nat} (h : bestMatch table f s p = some (L, j)) :
    j < table.size ∧
      (∃ pre rest, s = pre ++ rest ∧ L = utf8Len pre ∧ Matches table[j]!.1 pre ∧ matchAt table[j]!.1 f s p = some (p + L)) ∧
      ∀ i e, i < table.size → matchAt table[i]!.1 f s p = some e → e ≤ p + L ∧ (j < i → e < p + L) := by
  have := bestMatch_best table f s p
  rw [h] at this
  obtain ⟨hj, hm, hmax⟩ := this
  obtain ⟨pre, rest, hs, hw, he⟩ := matchAt_sound _ _ _ _ _ hm
  exact ⟨hj, ⟨pre, rest, hs, by omega, hw, hm⟩, hmax⟩

theorem bestMatch_last {table : LexTable} {f : Nat} {s : List Char} {p L j0 : Nat} (hj0 : j0 < table.size)
    (hfull : matchAt table[j0]!.1 f s p = some (p + L))
    (hle : ∀ i e, i < table.size → matchAt table[i]!.1 f s p = some e → e ≤ p + L) :
    ∃ j, j < table.size ∧ bestMatch table f s p = some (L, j) ∧ matchAt table[j]!.1 f s p = some (p + L) ∧
      ∀ i, i < table.size → matchAt table[i]!.1 f s p = some (p + L) → i ≤ j := by
  cases hb : bestMatch table f s p with
  | none =>
    rw [bestMatch_none hb j0 hj0] at hfull
    cases hfull
  | some b =>
    obtain ⟨L', j⟩ := b
    obtain ⟨hj, ⟨_, _, _, _, _, hm⟩, hmax⟩ := bestMatch_some hb
    have h1 := hle j _ hj hm
    have h2 := (hmax j0 _ hj0 hfull).1
    have : L' = L := by omega
    subst this
    refine ⟨j, hj, rfl, hm, fun i hi hf => Nat.le_of_not_lt fun h => ?_⟩
    have := (hmax i _ hi hf).2 h
    omega

theorem bestMatch_of_longest {table : LexTable} {f : Nat} {s : List Char} {p L j : Nat} (hj : j < table.size)
    (hm : matchAt table[j]!.1 f s p = some (p + L))
    (hmax : ∀ i e, i < table.size → matchAt table[i]!.1 f s p = some e → e ≤ p + L ∧ (j < i → e < p + L)) :
    bestMatch table f s p = some (L, j) := by
  obtain ⟨j', hj', hb, hm', hlast⟩ := bestMatch_last hj hm fun i e hi he => (hmax i e hi he).1
  -- the last of the longest, `j'`, is not before `j`, and behind `j` nothing matches as much
  have h1 := hlast j hj hm
  have h2 := (hmax j' _ hj' hm').2
  have : j' = j := by omega
  rw [hb, this]

theorem next_nil (table : LexTable) (fuel p : Nat) : next table (fuel + 1) [] p = .eof := by
  rw [next]

theorem next_none {table : LexTable} {fuel : Nat} {s : List Char} {p : Nat} (hs : s ≠ [])
    (hb : bestMatch table (fuel + 1) s p = none) : next table (fuel + 1) s p = .invalid p := by
  rw [next]
  · rw [hb]
  · exact fun h => hs h

theorem next_step {table : LexTable} {fuel : Nat} {pre rest : List Char} {p j : Nat} (hs : pre ++ rest ≠ [])
    (hb : bestMatch table (fuel + 1) (pre ++ rest) p = some (utf8Len pre, j)) :
    next table (fuel + 1) (pre ++ rest) p =
      if table[j]!.2 then (if utf8Len pre = 0 then .invalid p else next table fuel rest (p + utf8Len pre))
      else .token { start := p, index := j, text := String.ofList pre, stop := p + utf8Len pre } rest := by
  rw [next]
  · rw [hb]
    simp only [splitBytes_prefix]
  · exact fun h => hs h

theorem next_token_of {table : LexTable} {fuel : Nat} {pre rest : List Char} {p j : Nat} (hpre : pre ≠ [])
    (hb : bestMatch table (fuel + 1) (pre ++ rest) p = some (utf8Len pre, j)) (hns : table[j]!.2 = false) :
    next table (fuel + 1) (pre ++ rest) p
      = .token { start := p, index := j, text := String.ofList pre, stop := p + utf8Len pre } rest := by
  rw [next_step (by simp [hpre]) hb, hns]
  rfl

theorem next_skip_of {table : LexTable} {fuel : Nat} {pre rest : List Char} {p j : Nat} (hpre : pre ≠ [])
    (hb : bestMatch table (fuel + 1) (pre ++ rest) p = some (utf8Len pre, j)) (hs : table[j]!.2 = true) :
    next table (fuel + 1) (pre ++ rest) p = next table fuel rest (p + utf8Len pre) := by
  rw [next_step (by simp [hpre]) hb, if_pos hs, if_neg (fun h => hpre (utf8Len_eq_zero.mp h))]

def NextOk (table : LexTable) (s : List Char) (p : Nat) : LexResult → Prop
  | .token t rest => ∃ skipped tok, s = skipped ++ tok ++ rest ∧ t.start = p + utf8Len skipped ∧
      t.stop = t.start + utf8Len tok ∧ t.text = String.ofList tok ∧ t.index < table.size ∧ table[t.index]!.2 = false ∧
      Matches table[t.index]!.1 tok
  | .eof => True
  | .invalid l => ∃ pre post, s = pre ++ post ∧ l = p + utf8Len pre

theorem next_ok (table : LexTable) (fuel : Nat) : ∀ (s : List Char) (p : Nat), NextOk table s p (next table fuel s p) := by
  induction fuel with
  | zero =>
    intro s p
    exact ⟨[], s, rfl, rfl⟩
  | succ fuel ih =>
    intro s p
    by_cases hs : s = []
    · subst hs
      rw [next_nil]
      trivial
    · cases hb : bestMatch table (fuel + 1) s p with
      | none =>
        rw [next_none hs hb]
        exact ⟨[], s, rfl, rfl⟩
      | some b =>
        obtain ⟨L, j⟩ := b
        obtain ⟨hj, ⟨pre, post, rfl, rfl, hw, _⟩, _⟩ := bestMatch_some hb
        rw [next_step hs hb]
        split
        · split
          · exact ⟨[], _, rfl, rfl⟩
          · -- a skipped match: what the rest gives, moved behind it
            have := ih post (p + utf8Len pre)
            revert this
            cases next table fuel post (p + utf8Len pre) with
            | eof => exact id
            | invalid l =>
              rintro ⟨a, b, rfl, rfl⟩
              exact ⟨pre ++ a, b, by simp, by rw [utf8Len_append]; omega⟩
            | token t rest =>
              rintro ⟨sk, tok, rfl, h4, h⟩
              exact ⟨pre ++ sk, tok, by simp, by rw [h4, utf8Len_append]; omega, h⟩
        · rename_i hns
          exact ⟨[], pre, rfl, rfl, rfl, rfl, hj, by simpa using hns, hw⟩

theorem next_token_slice (table : LexTable) (fuel : Nat) (s : List Char) (p : Nat) (t : Token) (rest : List Char)
    (h : next table fuel s p = .token t rest) :
    ∃ skipped tok, s = skipped ++ tok ++ rest ∧ t.start = p + utf8Len skipped ∧
      t.stop = t.start + utf8Len tok ∧ t.text = String.ofList tok := by
  obtain ⟨sk, tok, h1, h2, h3, h4, _⟩ : NextOk table s p (.token t rest) := h ▸ next_ok table fuel s p
  exact ⟨sk, tok, h1, h2, h3, h4⟩

theorem next_invalid_boundary (table : LexTable) (fuel : Nat) (s : List Char) (p l : Nat)
    (h : next table fuel s p = .invalid l) : ∃ pre post, s = pre ++ post ∧ l = p + utf8Len pre :=
  (h ▸ next_ok table fuel s p : NextOk table s p (.invalid l))

end Aidl.Props.LexerBounds
