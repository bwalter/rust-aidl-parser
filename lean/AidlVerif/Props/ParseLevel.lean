import AidlVerif.Lemmas.RunM

/-! Theorems about the parser model shared by C02, C03, C04, C14, C18. -/

namespace Aidl.Props.PL
open Aidl Aidl.Actions Aidl.Lexer

/-- **Every range built by `Range::new`**: both offsets are accepted by the lookup, and line and
    column of both ends are the lookup's (otherwise the model panics, as `get_by_cluster` does). -/
theorem mkRange_ok (env : Env) (ds : List Diag) (a b : Nat) (r : Range) (ds' : List Diag)
    (h : runM (mkRange a b) env ds = .ok (r, ds')) :
    ds' = ds ∧ r.start.off = a ∧ r.stop.off = b
    ∧ env.lineCol a = some (r.start.line, r.start.col) ∧ env.lineCol b = some (r.stop.line, r.stop.col) := by
  unfold mkRange at h
  obtain ⟨pa, d1, ha, h⟩ := runM_bind_ok h
  obtain ⟨pb, d2, hb, h⟩ := runM_bind_ok h
  rw [mkPos_eq] at ha hb
  split at ha <;> cases ha
  split at hb <;> cases hb
  cases h
  exact ⟨rfl, rfl, rfl, ‹_›, ‹_›⟩

def errSpan : ParseErr → Nat × Nat
  | .invalidToken l => (l, l)                     -- empty range at the unlexable character
  | .unrecognizedEof l _ => (l, l)                -- empty range right after the last token read
  | .unrecognizedToken t _ => (t.start, t.stop)   -- exactly the offending token
  | .extraToken t => (t.start, t.stop)

theorem fromParseError_eq (e : ParseErr) : ∃ mk : Range → Diag, (∀ r, (mk r).kind = .error ∧ (mk r).range = r)
    ∧ fromParseError e = (mkRange (errSpan e).1 (errSpan e).2 >>= fun r => pure (mk r)) := by
  cases e with
  | invalidToken l => exact ⟨_, fun _ => ⟨rfl, rfl⟩, rfl⟩
  | unrecognizedEof l ex => exact ⟨_, fun _ => ⟨rfl, rfl⟩, rfl⟩
  | unrecognizedToken t ex => exact ⟨_, fun _ => ⟨rfl, rfl⟩, rfl⟩
  | extraToken t => exact ⟨_, fun _ => ⟨rfl, rfl⟩, rfl⟩

/-- **A syntax diagnostic is an Error and covers exactly the offending token** (the empty range at
    an unlexable character / after the last token for an unexpected end of input) -/
theorem fromParseError_ok (env : Env) (ds : List Diag) (e : ParseErr) (d : Diag) (ds' : List Diag)
    (h : runM (fromParseError e) env ds = .ok (d, ds')) :
    ds' = ds ∧ d.kind = .error ∧ d.range.start.off = (errSpan e).1 ∧ d.range.stop.off = (errSpan e).2 := by
  obtain ⟨mk, hmk, heq⟩ := fromParseError_eq e
  rw [heq] at h
  obtain ⟨r, dr, hr, h⟩ := runM_bind_ok h
  cases h
  have := mkRange_ok env ds _ _ r _ hr
  rw [(hmk r).2]
  exact ⟨this.1, (hmk r).1, this.2.1, this.2.2.1⟩

/-- **Every error-recovery action pushes exactly one diagnostic, an Error on the span of the
    recorded parse error, and yields `None`** (`OptItem`, `OptInterfaceElement`,
    `OptParcelableElement`, `OptEnumElement`) -/
theorem recovery_pushes_error (msg : String) (env : Env) (ds : List Diag) (s e : Nat) (err : ParseErr)
    (dropped : List Token) (v : Val) (ds' : List Diag)
    (h : runM (recoveryAction msg [.triple s (.recovery err dropped) e]) env ds = .ok (v, ds')) :
    ∃ d, ds' = ds ++ [d] ∧ d.kind = .error ∧ d.range.start.off = (errSpan err).1
      ∧ d.range.stop.off = (errSpan err).2 ∧ (match v with | .none_ => True | _ => False) := by
  unfold recoveryAction at h
  simp only [nth, List.getElem?_cons_zero, argVal, pure_bind] at h
  obtain ⟨d', dd, hf, h⟩ := runM_bind_ok h
  obtain ⟨d, _, hf, hd⟩ := runM_bind_ok hf
  cases hd
  cases h
  have hfp := fromParseError_ok env ds err d _ hf
  exact ⟨{ d with message := msg ++ " - " ++ d.message }, by rw [hfp.1], hfp.2.1, hfp.2.2.1, hfp.2.2.2, trivial⟩

/-! The list builders keep source order. -/

theorem wp_mapM_asOpt (env : Env) (ds : List Diag) : ∀ l : List Val,
    Wp (l.mapM asOpt) env ds
      (fun os ds' => ds' = ds ∧ os.filterMap id = l.filterMap fun | .some_ v => some v | _ => none) fun _ => True
  | [] => by rw [List.mapM_nil]; exact ⟨rfl, rfl⟩
  | x :: xs => by
    rw [List.mapM_cons]
    have ih := wp_mapM_asOpt env ds xs
    cases x with
    | none_ => exact .bind (.bind (ih.mono fun os ds' h => ⟨h.1, by simpa using h.2⟩))
    | some_ v => exact .bind (.bind (ih.mono fun os ds' h => ⟨h.1, by simpa using h.2⟩))
    | _ => exact .bind trivial

theorem flattenOpts_order (env : Env) (ds : List Diag) (l r : List Val) (ds' : List Diag)
    (h : runM (flattenOpts (.list l)) env ds = .ok (r, ds')) :
    ds' = ds ∧ r.Sublist (l.filterMap fun | .some_ v => some v | _ => none) ∧
      (l.filterMap fun | .some_ v => some v | _ => none).Sublist r := by
  have hw : Wp (flattenOpts (.list l)) env ds
      (fun r ds' => ds' = ds ∧ r = l.filterMap fun | .some_ v => some v | _ => none) fun _ => True :=
    .bind (.bind ((wp_mapM_asOpt env ds l).mono fun _ _ h => h))
  unfold Wp at hw
  rw [h] at hw
  exact ⟨hw.1, hw.2 ▸ List.Sublist.refl _, hw.2 ▸ List.Sublist.refl _⟩

end Aidl.Props.PL
