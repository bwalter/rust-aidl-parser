import AidlVerif.Props.RegexEval
import AidlVerif.Props.JavadocAttach

/-!
# C18 — "the words themselves are preserved exactly", for every comment body

`words s` is `s` without the decoration characters of a doc comment (space, tab, CR, LF, `*`); `parseJavadoc_words`:
`words (parse_javadoc body) = words body` for every body, so the normalisation only deletes, inserts or replaces
decoration characters. The idea: by `RegexSound.findFrom_sound` what `split` drops and what `replace_all` replaces is a
word of the expression's regular language, and those consist of decoration characters (for `([^\n])[ \t]*@`: one kept
character, blanks, `@`, replaced by the kept character, a newline and `@`). The bounds `parse_javadoc` runs its loops and
stars with play no part.
-/

namespace Aidl.Props.JavadocWords
open Aidl.Regex Aidl.Javadoc Aidl.Props.JavadocTotal Aidl.Props.RegexSound Aidl.Props.JavadocAttach

def words (s : List Char) : List Char := s.filter (fun c => !isTrimChar c)

theorem words_append (a b : List Char) : words (a ++ b) = words a ++ words b := by
  unfold words; exact List.filter_append ..

theorem words_nil : words [] = [] := rfl

theorem words_all_trim (w : List Char) (h : ∀ c ∈ w, isTrimChar c = true) : words w = [] := by
  unfold words
  rw [List.filter_eq_nil_iff]
  intro c hc
  simp [h c hc]

theorem words_dropWhile (l : List Char) : words (l.dropWhile isTrimChar) = words l := by
  induction l with
  | nil => rfl
  | cons c cs ih =>
    by_cases hc : isTrimChar c = true
    · rw [List.dropWhile_cons_of_pos hc, ih]
      unfold words
      rw [List.filter_cons_of_neg (by simp [hc])]
    · rw [List.dropWhile_cons_of_neg hc]

theorem words_reverse (l : List Char) : words l.reverse = (words l).reverse := by
  unfold words; exact List.filter_reverse ..

theorem words_trimMatches (p : List Char) : words (trimMatches p) = words p := by
  unfold trimMatches
  rw [words_reverse, words_dropWhile, words_reverse, words_dropWhile, List.reverse_reverse]

theorem mem_trimMatches {c : Char} {s : List Char} (h : c ∈ trimMatches s) : c ∈ s := by
  unfold trimMatches at h
  have h1 := List.mem_reverse.mp h
  have h2 := (List.dropWhile_sublist _).subset h1
  have h3 := List.mem_reverse.mp h2
  exact (List.dropWhile_sublist _).subset h3

theorem words_intercalate (l : List (List Char)) : words (intercalate ['\n'] l) = (l.map words).flatten := by
  induction l with
  | nil => rfl
  | cons a rest ih =>
    cases rest with
    | nil => simp [intercalate]
    | cons b rest' =>
      show words (a ++ ['\n'] ++ intercalate ['\n'] (b :: rest')) = _
      rw [words_append, words_append, ih]
      have : words ['\n'] = [] := by decide
      rw [this]
      simp

/-- the slices `split` and `replace_all` take when a match `w` is reported at the byte lengths of `pre` and `pre ++ w` -/
theorem slices (pre w post : List Char) :
    takeBytes (utf8Len pre) (pre ++ w ++ post) = pre
      ∧ takeBytes (utf8Len pre + utf8Len w - utf8Len pre) (dropBytes (utf8Len pre) (pre ++ w ++ post)) = w
      ∧ dropBytes (utf8Len pre + utf8Len w) (pre ++ w ++ post) = post := by
  refine ⟨?_, ?_, ?_⟩
  · rw [List.append_assoc, takeBytes_prefix]
  · rw [List.append_assoc, dropBytes_prefix, Nat.add_sub_cancel_left, takeBytes_prefix]
  · rw [← utf8Len_append, dropBytes_prefix]

theorem find_pieces (r : Re) (fuel : Nat) (s : List Char) (a b : Nat) (h : findFrom r fuel s 0 = some (a, b)) :
    ∃ pre w post, s = pre ++ w ++ post ∧ Matches r w ∧ takeBytes a s = pre
      ∧ takeBytes (b - a) (dropBytes a s) = w ∧ dropBytes b s = post := by
  obtain ⟨pre, w, post, hs, hw, ha, hb⟩ := findFrom_sound r fuel s 0 a b h
  have ha' : a = utf8Len pre := by omega
  subst ha' hb hs
  exact ⟨pre, w, post, rfl, hw, slices pre w post⟩

def IsTrim (c : Char) : Prop := isTrimChar c = true

theorem words_splitRe (r : Re) (hr : clsAll IsTrim r) :
    ∀ (fuel : Nat) (s : List Char), ((splitRe r fuel s).map words).flatten = words s := by
  intro fuel
  induction fuel with
  | zero => intro s; simp [splitRe]
  | succ fuel ih =>
    intro s
    rw [splitRe]
    split
    · rename_i a b hf
      split
      · simp
      · obtain ⟨pre, w, post, hs, hw, hta, _, hdb⟩ := find_pieces r _ s a b hf
        rw [List.map_cons, List.flatten_cons, ih, hta, hdb]
        conv => rhs; rw [hs]
        rw [words_append, words_append, words_all_trim w (hw.all_chars IsTrim hr)]
        simp
    · simp

theorem words_replaceAll (r : Re) (rep : List Char → List Char) (hrep : ∀ w, Matches r w → words (rep w) = words w) :
    ∀ (fuel : Nat) (s : List Char), words (replaceAll r rep fuel s) = words s := by
  intro fuel
  induction fuel with
  | zero => intro s; simp [replaceAll]
  | succ fuel ih =>
    intro s
    rw [replaceAll]
    split
    · rename_i a b hf
      split
      · rfl
      · obtain ⟨pre, w, post, hs, hw, hta, htw, hdb⟩ := find_pieces r _ s a b hf
        rw [words_append, words_append, ih, hta, htw, hdb, hrep w hw]
        conv => rhs; rw [hs]
        rw [words_append, words_append]
    · rfl

/-- a character of `[ \t\r\n*]` (or a sub-class) is a decoration character -/
theorem trim_of_inCls (rs : List (Nat × Nat)) (hrs : ∀ r ∈ rs, r.1 = r.2 ∧ (r.1 = 32 ∨ r.1 = 9 ∨ r.1 = 13 ∨ r.1 = 10 ∨ r.1 = 42))
    (c : Char) (h : inCls rs c = true) : IsTrim c := by
  unfold inCls at h
  obtain ⟨r, hr, hc⟩ := List.any_eq_true.mp h
  obtain ⟨heq, hv⟩ := hrs r hr
  simp only [Bool.and_eq_true, decide_eq_true_eq] at hc
  have hn : c.toNat = r.1 := by omega
  rcases hv with h1 | h1 | h1 | h1 | h1 <;> (rw [h1] at hn; rw [JavadocSpec.char_of_toNat c _ hn]; show isTrimChar _ = true; decide)

theorem reParagraph_trim : clsAll IsTrim reParagraph := by
  simp only [reParagraph, Re.seqs, Re.opt, Re.chr, clsAll]
  repeat' apply And.intro
  all_goals first | trivial | (apply trim_of_inCls; decide)

theorem reLineNoise_trim : clsAll IsTrim reLineNoise := by
  simp only [reLineNoise, Re.seqs, Re.chr, clsAll]
  repeat' apply And.intro
  all_goals first | trivial | (apply trim_of_inCls; decide)

theorem reBeforeAt_rep (w : List Char) (h : Matches reBeforeAt w) : words (w.take 1 ++ ['\n', '@']) = words w := by
  -- `w` is one kept character `c`, blanks `bl`, `@`
  obtain ⟨u, v, rfl, hu, hv⟩ := Matches.seq_inv (a := .cls _) h
  obtain ⟨c, rfl, _⟩ := hu.cls_inv
  obtain ⟨bl, e, rfl, hbl, he⟩ := hv.seq_inv
  obtain ⟨d, rfl, hd⟩ := he.cls_inv
  cases JavadocSpec.eq_of_inCls_single _ d hd
  have hbl : ∀ x ∈ bl, IsTrim x := hbl.all_chars IsTrim fun c hc => trim_of_inCls ws4 (by decide) c hc
  show words ([c] ++ ['\n', '@']) = words ([c] ++ (bl ++ ['@']))
  rw [words_append, words_append, words_append, words_all_trim bl hbl]
  have : words ['\n', '@'] = words ['@'] := by decide
  rw [this]; simp

theorem parseJavadoc_words (s : List Char) : words (parseJavadoc s) = words s := by
  unfold parseJavadoc
  simp only
  rw [words_intercalate, List.map_map]
  have : (words ∘ fun p => replaceAll reBeforeAt (fun m => List.take 1 m ++ ['\n', '@']) (s.length + 1)
        (replaceAll reLineNoise (fun _ => [' ']) (s.length + 1) (trimMatches p))) = words := by
    funext p
    simp only [Function.comp]
    rw [words_replaceAll _ _ reBeforeAt_rep, words_replaceAll _ _ (fun w hw => ?_), words_trimMatches]
    rw [words_all_trim w (hw.all_chars IsTrim reLineNoise_trim)]
    decide
  rw [this]
  exact words_splitRe reParagraph reParagraph_trim _ s

theorem doc_words_verbatim (pre body rest : List Char) (ps : List Piece)
    (hbody : ∀ x ∈ body, x ≠ '/') (hhead : body.head? ≠ some '*') (hps : ∀ p ∈ ps, p.ok) :
    ∃ d, getJavadoc (pre ++ ['/', '*', '*'] ++ body ++ ['*', '/'] ++ flat ps ++ rest)
        (utf8Len (pre ++ ['/', '*', '*'] ++ body ++ ['*', '/'] ++ flat ps)) = .ok (some d)
      ∧ words d.toList = words body := by
  refine ⟨_, getJavadoc_doc pre body rest ps hbody hhead hps, ?_⟩
  rw [String.toList_ofList]
  exact parseJavadoc_words body

example : words "\r\n * Größe 日本\r\n * @param x é\r\n ".toList = "Größe日本@paramxé".toList := by
  rw [String.toList_ofList, String.toList_ofList]
  decide +kernel

end Aidl.Props.JavadocWords
