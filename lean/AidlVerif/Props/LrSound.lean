import AidlVerif.Props.LrSafe

/-!
Soundness of the LR driver with respect to the grammar of the generated parser (C03, one half).
The grammar is the list of productions of the tables (symbol ids: terminal = ACTION column,
non-terminal = ncols + index). Ghost fields of the model (`Sym.toks`, `St.hist`, `St.recovered`, never read by
the driver) record which tokens a symbol spans, which tokens have been shifted and whether error recovery has run.
-/

namespace Aidl.Props.LrSound
open Aidl Aidl.Lr Aidl.Actions Aidl.Lexer
open Aidl.Props.LrSafe Aidl.Props.LrDriver

variable (T : Tables) (C : Cert) (env : Env)

mutual
inductive Yields : Nat → List Nat → Prop
  | term (c : Nat) : c < T.ncols - 1 → Yields c [c]
  | prod (p : Nat) (prod : Production) (w : List Nat) :
      T.prods[p]? = some prod → prod.accept = false → YieldsSeq prod.rhsIds w → Yields (T.ncols + prod.nt) w
inductive YieldsSeq : List Nat → List Nat → Prop
  | nil : YieldsSeq [] []
  | cons (x : Nat) (xs : List Nat) (w ws : List Nat) : Yields x w → YieldsSeq xs ws → YieldsSeq (x :: xs) (w ++ ws)
end

def Derives (w : List Nat) : Prop :=
  ∃ (p : Nat) (prod : Production), T.prods[p]? = some prod ∧ prod.accept = true ∧ YieldsSeq T prod.rhsIds w

theorem yieldsSeq_of_syms : ∀ (syms : List Sym), (∀ x ∈ syms, Yields T x.id x.toks) →
    YieldsSeq T (syms.map (·.id)) (syms.flatMap (·.toks))
  | [], _ => YieldsSeq.nil
  | x :: xs, h => by
    simp only [List.map_cons, List.flatMap_cons]
    exact YieldsSeq.cons _ _ _ _ (h x (List.mem_cons_self ..))
      (yieldsSeq_of_syms xs (fun y hy => h y (List.mem_cons_of_mem _ hy)))

structure SoundSt (s : St) : Prop where
  syms : ∀ x ∈ s.syms, Yields T x.id x.toks
  hist : s.hist = s.syms.reverse.flatMap (·.toks)

structure Inv3 (s : St) : Prop where
  chain : Chain C s.states s.syms
  sound : s.recovered = false → SoundSt T s

def End3 (s : St) : Outcome → Prop
  | .accept _ => s.recovered = false → Derives T s.hist
  | _ => True

/-- every column a token maps to is a terminal (not `error`) -/
def ColsOk : Prop := ∀ (i col : Nat), T.tokToCol.lookup i = some col → col < T.ncols - 1

theorem nextToken_inv3 (hcols : ColsOk T) (s : St) (h : Inv3 T C s) :
    Holds (fun s' la => Inv3 T C s' ∧ ∀ x ∈ la, x.2 < T.ncols - 1) (End3 T) (ofNext (nextToken T s)) := by
  unfold nextToken
  cases Lexer.next T.lex (s.input.length + 1) s.input s.pos with
  | eof => exact And.intro h nofun
  | invalid l => trivial
  | token t rest =>
    dsimp only
    cases hc : T.tokToCol.lookup t.index with
    | some col =>
      exact And.intro ⟨h.chain, fun hr => ⟨(h.sound hr).syms, (h.sound hr).hist⟩⟩ fun x hx => by cases hx; exact hcols _ _ hc
    | none => trivial

theorem reduce_inv3 (F : CertFacts T C) (s : St) (p : Nat) (la : Option Nat)
    (h : Inv3 T C s) (hred : C.redOK T (topState s) p = true) :
    Holds (fun s' _ => Inv3 T C s') (End3 T) (ofRed (reduce T env s p la)) := by
  obtain ⟨prod, hp, hids, hr⟩ := reduce_chain T C F env s p la h.chain hred
  have hy : s.recovered = false → YieldsSeq T prod.rhsIds ((popped s prod).flatMap (·.toks)) := fun hrec =>
    hids ▸ yieldsSeq_of_syms T (popped s prod)
      (fun x hx => (h.sound hrec).syms x (List.mem_of_mem_take (List.mem_reverse.mp hx)))
  have hsplit : s.syms.reverse = (s.syms.drop prod.rhs.length).reverse ++ popped s prod := by
    rw [popped, ← List.reverse_append, List.take_append_drop]
  generalize reduce T env s p la = res at hr ⊢
  cases hr with
  | stop _ => trivial
  | accept _ hacc hempty =>
    intro hrec
    refine ⟨p, prod, hp, hacc, ?_⟩
    show YieldsSeq T prod.rhsIds s.hist
    rw [(h.sound hrec).hist, hsplit, hempty]
    exact hy hrec
  | goOn g _ hacc _ hc' =>
    refine Inv3.mk hc' fun hrec => ⟨?_, ?_⟩
    · exact List.forall_mem_cons.mpr ⟨Yields.prod p prod _ hp hacc (hy hrec),
        fun x hx => (h.sound hrec).syms x (List.mem_of_mem_drop hx)⟩
    · show s.hist = _
      rw [(h.sound hrec).hist, hsplit]
      simp [List.flatMap_append, lhsSym]

/-! The moves of error recovery are trivial here: `pushed` sets `recovered`, and `Inv3.sound` asks nothing then. -/

theorem inv3_invariant (F : CertFacts T C) (hcols : ColsOk T) :
    Invariant T env (fun m s => Inv3 T C s ∧ Parts (fun _ c => c < T.ncols - 1) (fun _ _ => True) m) (End3 T) := by
  refine .of_parts ?fuel ?lex ?shift ?reduce ?extra ?enter ?drop ?giveUp ?push
  case fuel => exact fun _ _ => trivial
  case lex => exact nextToken_inv3 T C hcols
  case shift =>
    intro s l c target h hl hs
    refine ⟨chain_shifted T C F h.chain hs l, fun hr => ?_⟩
    have hsd := h.sound hr
    refine ⟨?_, ?_⟩
    · exact List.forall_mem_cons.mpr ⟨Yields.term c hl, hsd.syms⟩
    · show s.hist ++ [c] = _
      rw [hsd.hist]
      simp [shifted]
  case reduce => exact fun s la r h _ hr => reduce_inv3 T C env F s r _ h (redOK_of_fires T C F hr)
  case extra => exact fun _ _ _ _ _ _ => trivial
  case enter => exact fun _ _ _ _ => trivial
  case drop => exact fun _ _ _ _ _ _ => trivial
  case giveUp => exact fun _ _ _ _ _ => trivial
  case push =>
    exact fun s e d la top errState h _ _ htop hsh => ⟨(chain_pushed T C F h.chain htop hsh e _ d).2, nofun⟩

theorem inv3_init (text : List Char) : Inv3 T C { input := text } :=
  ⟨Chain.base, fun _ => ⟨(by intro x hx; cases hx), rfl⟩⟩

/-- **For every input**: when the run accepts and error recovery never ran, the tokens shifted are
    derivable from the start production of the grammar ("reported free of syntax errors ⇒ well-formed
    under the grammar"). -/
theorem accepted_derives (F : CertFacts T C) (hcols : ColsOk T) (text : List Char) (fuel : Nat) (v : Val)
    (h : (parseLoop T env { input := text } fuel).2 = .accept v)
    (hr : (parseLoop T env { input := text } fuel).1.recovered = false) :
    Derives T (parseLoop T env { input := text } fuel).1.hist := by
  have := parseLoop_parts (inv3_invariant T C env F hcols) fuel _ (inv3_init T C text)
  rw [h] at this
  exact this hr

end Aidl.Props.LrSound
