import AidlVerif.Props.LexTokens

/-!
Where the number entries overlap. Two entries of the table can begin with an ASCII digit: INTEGER and one other, FLOAT
(`floatIdx`), which can also begin with a sign or a dot. What the lexer returns there depends on what follows; for every
text, from THIS run's table:
* a maximal run of ASCII digits not followed by a character FLOAT could use is ONE INTEGER token: both entries match the
  run, the tie goes to the later entry (`numberEntries_ok`; `next_integer` stands in `LexRuns.lean`);
* `next_after_char`: a single-character entry whose character `c` only one other entry `o` can begin with yields the
  one-character token whenever the next character cannot continue a word of `o` that begins with `c` (it is not in
  `firstCls (deriv o c)`, and `deriv o c`, the Brzozowski derivative, is not nullable): `-` not followed by a digit or
  dot, `.` not followed by a digit.
-/

namespace Aidl.Props.LexNumbers
open Aidl.Regex Aidl.Lexer Aidl.Javadoc Aidl.Props.JavadocTotal Aidl.Props.LexerBounds
  Aidl.Props.RegexSound Aidl.Props.JavadocSpec Aidl.Props.SkipEntries Aidl.Props.LexSkip Aidl.Props.LexerFuel Aidl.Props.LexIdent
  Aidl.Props.LexTokens

def intIdx : Nat := Gen.lexTable.toList.idxOf (intRe, false)

theorem intIdx_entry : intIdx < Gen.lexTable.size ∧ Gen.lexTable[intIdx]! = (intRe, false) := entry_at_idxOf int_entry

theorem intIdx_full (c : Char) (t : List Char) (hc : isDigit c = true) (ht : ∀ d ∈ t, isDigit d = true) :
    fullOn intIdx (c :: t) = true :=
  fullOn_start_run intIdx_entry.2 c t hc ht

/-- the other entry that can begin with an ASCII digit -/
def floatIdx : Nat :=
  ((List.range Gen.lexTable.size).filter fun i => i != intIdx && !disjointCls digitCls (firstCls Gen.lexTable[i]!.1)).headD 0

def clsOf : Re → List (Nat × Nat)
  | .eps => []
  | .cls rs => rs
  | .seq a b => clsOf a ++ clsOf b
  | .alt a b => clsOf a ++ clsOf b
  | .star a => clsOf a

def floatChars : List (Nat × Nat) := clsOf Gen.lexTable[floatIdx]!.1

/-- only INTEGER and one EARLIER entry can begin with an ASCII digit: the first and the last conjunct, which is what
    `next_integer` uses. The two in the middle (that entry only uses `floatChars`, which holds by the definition of
    `floatChars`; the ASCII digits are among them) are used by no proof. -/
def numberEntries : Bool :=
  decide (floatIdx < intIdx) && clsInside floatChars Gen.lexTable[floatIdx]!.1 && rangesSub digitCls floatChars &&
    (List.range Gen.lexTable.size).all fun i => i == intIdx || i == floatIdx || disjointCls digitCls (firstCls Gen.lexTable[i]!.1)

theorem numberEntries_ok : numberEntries = true := by decide +kernel

def deriv : Re → Char → Re
  | .eps, _ => .cls []
  | .cls rs, c => if inCls rs c then .eps else .cls []
  | .seq a b, c => if LexSkip.nullable a then .alt (.seq (deriv a c) b) (deriv b c) else .seq (deriv a c) b
  | .alt a b, c => .alt (deriv a c) (deriv b c)
  | .star a, c => .seq (deriv a c) (.star a)

theorem deriv_sound {r : Re} {w : List Char} (h : Matches r w) : ∀ c t, w = c :: t → Matches (deriv r c) t := by
  induction h with
  | eps => intro c t h; cases h
  | cls rs d hd =>
    intro c t h
    cases h
    simp only [deriv, hd, if_true]
    exact Matches.eps
  | seq a b u v hu hv iha ihb =>
    intro c t h
    cases u with
    | nil =>
      have hnull := LexSkip.matches_nil_nullable hu rfl
      simp only [deriv, hnull, if_true]
      exact Matches.altR _ _ _ (ihb c t (by simpa using h))
    | cons x y =>
      have hx : x = c ∧ y ++ v = t := by simpa using h
      obtain ⟨rfl, rfl⟩ := hx
      have hd := Matches.seq _ b y v (iha x y rfl) hv
      simp only [deriv]
      split
      · exact Matches.altL _ _ _ hd
      · exact hd
  | altL a b u _ ih => intro c t h; exact Matches.altL _ _ _ (ih c t h)
  | altR a b u _ ih => intro c t h; exact Matches.altR _ _ _ (ih c t h)
  | starNil a => intro c t h; cases h
  | starCons a u v hu hv iha ihv =>
    intro c t h
    cases u with
    | nil => exact ihv c t (by simpa using h)
    | cons x y =>
      have hx : x = c ∧ y ++ v = t := by simpa using h
      obtain ⟨rfl, rfl⟩ := hx
      exact Matches.seq _ _ y v (iha x y rfl) hv

theorem second_sound {r : Re} {c : Char} {t : List Char} (h : Matches r (c :: t)) :
    (t = [] → LexSkip.nullable (deriv r c) = true) ∧ (∀ d u, t = d :: u → inCls (firstCls (deriv r c)) d = true) :=
  ⟨fun ht => LexSkip.matches_nil_nullable (deriv_sound h c t rfl) ht, fun d u ht => first_sound (deriv_sound h c t rfl) d u ht⟩

theorem matchAt_none_after (r : Re) (f : Nat) (c : Char) (s : List Char) (p : Nat)
    (hnn : LexSkip.nullable r = false) (hnd : LexSkip.nullable (deriv r c) = false)
    (hs : ∀ d u, s = d :: u → inCls (firstCls (deriv r c)) d = false) :
    matchAt r f (c :: s) p = none := by
  cases hm : matchAt r f (c :: s) p with
  | none => rfl
  | some e =>
    exfalso
    obtain ⟨w, s', hws, hw, _⟩ := matchAt_sound r f _ p e hm
    cases w with
    | nil => have := LexSkip.matches_nil_nullable hw rfl; rw [hnn] at this; cases this
    | cons x t =>
      have hx : c = x ∧ s = t ++ s' := by simpa using hws
      obtain ⟨rfl, hst⟩ := hx
      obtain ⟨h1, h2⟩ := second_sound hw
      cases t with
      | nil => have := h1 rfl; rw [hnd] at this; cases this
      | cons d u =>
        have := h2 d u rfl
        rw [hs d (u ++ s') (by rw [hst]; rfl)] at this; cases this

/-- (entry `j`, code point, other entry `o`): `j` is a single-character entry, no entry but `j` and `o` can begin with
    its character, and `o` is not nullable and has no one-character word beginning with it. `o` itself need not begin
    with the character: the list holds such a triple for nearly every `o`. -/
def sharedEntries : List (Nat × Nat × Nat) :=
  (List.range Gen.lexTable.size).flatMap fun j =>
    match Gen.lexTable[j]! with
    | (.cls [(a, b)], false) =>
      (List.range Gen.lexTable.size).filterMap fun o =>
        if a = b ∧ (Char.ofNat a).toNat = a ∧ o ≠ j ∧ LexSkip.nullable Gen.lexTable[o]!.1 = false ∧
            LexSkip.nullable (deriv Gen.lexTable[o]!.1 (Char.ofNat a)) = false ∧
            ((List.range Gen.lexTable.size).all fun i => i == j || i == o || disjointCls [(a, a)] (firstCls Gen.lexTable[i]!.1)) = true
        then some (j, a, o) else none
    | _ => []

theorem mem_sharedEntries (j a o : Nat) : (j, a, o) ∈ sharedEntries ↔
    j < Gen.lexTable.size ∧ o < Gen.lexTable.size ∧ Gen.lexTable[j]! = (.cls [(a, a)], false) ∧ (Char.ofNat a).toNat = a ∧ o ≠ j ∧
      LexSkip.nullable Gen.lexTable[o]!.1 = false ∧ LexSkip.nullable (deriv Gen.lexTable[o]!.1 (Char.ofNat a)) = false ∧
      ((List.range Gen.lexTable.size).all fun i => i == j || i == o || disjointCls [(a, a)] (firstCls Gen.lexTable[i]!.1)) = true := by
  unfold sharedEntries
  simp only [List.mem_flatMap, List.mem_range]
  constructor
  · rintro ⟨j', hlt, hval⟩
    split at hval
    · rename_i a' b' heq
      simp only [List.mem_filterMap, List.mem_range] at hval
      obtain ⟨o', ho', hval⟩ := hval
      split at hval
      · rename_i hc
        simp only [Option.some.injEq, Prod.mk.injEq] at hval
        obtain ⟨rfl, rfl, rfl⟩ := hval
        obtain ⟨rfl, h⟩ := hc
        exact ⟨hlt, ho', heq, h⟩
      · cases hval
    · cases hval
  · rintro ⟨hj, ho, hent, h⟩
    refine ⟨j, hj, ?_⟩
    rw [hent]
    simp only [List.mem_filterMap, List.mem_range]
    exact ⟨o, ho, if_pos ⟨trivial, h⟩⟩

theorem next_after_char (j a o : Nat) (h : (j, a, o) ∈ sharedEntries) (fuel : Nat) (rest : List Char) (p : Nat)
    (hrest : ∀ d u, rest = d :: u → inCls (firstCls (deriv Gen.lexTable[o]!.1 (Char.ofNat a))) d = false) :
    next Gen.lexTable (fuel + 1) (Char.ofNat a :: rest) p
      = .token { start := p, index := j, text := String.ofList [Char.ofNat a], stop := p + (Char.ofNat a).utf8Size } rest := by
  obtain ⟨hj, _, hent, hval, hoj, hnn, hnd, hall⟩ := (mem_sharedEntries j a o).mp h
  refine next_single hj hent _ hval fuel rest p fun i hne => ?_
  by_cases hio : i = o
  · subst hio
    exact Or.inl (matchAt_none_after _ _ _ rest p hnn hnd hrest)
  · exact others_empty (fun i => i == j || i == o) _ hall ((inCls_single a _).trans (decide_eq_true hval)) _ _ p i (by simp [hne, hio])

def followOf (o : Nat) (c : Char) : List (Nat × Nat) := firstCls (deriv Gen.lexTable[o]!.1 c)

example : (Gen.lexTable.toList.idxOf (Re.cls [(45, 45)], false), '-'.toNat, floatIdx) ∈ sharedEntries :=
  (mem_sharedEntries _ _ _).mpr (by decide +kernel)
example : (Gen.lexTable.toList.idxOf (Re.cls [(46, 46)], false), '.'.toNat, floatIdx) ∈ sharedEntries :=
  (mem_sharedEntries _ _ _).mpr (by decide +kernel)
-- after `.` a number needs a digit: a letter (a qualified name `a.b`), `*` or a blank cannot follow
example : disjointCls identStartCls (followOf floatIdx '.') = true ∧ disjointCls wsCls (followOf floatIdx '.') = true := by decide +kernel
-- after `-` a number needs a digit or a dot
example : disjointCls identStartCls (followOf floatIdx '-') = true ∧ disjointCls wsCls (followOf floatIdx '-') = true := by decide +kernel
example : inCls floatChars 'f' = true ∧ inCls floatChars ';' = false ∧ inCls floatChars ' ' = false := by decide +kernel

end Aidl.Props.LexNumbers
