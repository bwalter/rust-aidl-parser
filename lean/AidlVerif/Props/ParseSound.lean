import AidlVerif.Props.LrSound
import AidlVerif.Props.LrSafeCert

/-! C03, one half, for every text: accepted without error recovery ⇒ derivable in the grammar. -/

namespace Aidl.Props.ParseSound
open Aidl Aidl.Lr Aidl.Actions
open Aidl.Props.LrSafe Aidl.Props.LrSound

theorem colsOk_run : ColsOk Driver.Parse.tables := by
  intro i col h
  have := (List.all_eq_true.mp cols_ok) (i, col) (Checks.lookup_mem h)
  simpa using this

/-- **For every text** (tables and certificate of this run): if the LR driver accepts and its error
    recovery never ran, the sequence of tokens it shifted is derivable from the accepting production
    of the grammar extracted from the generated parser. -/
theorem accepted_derives_run (env : Env) (text : String) (fuel : Nat) (v : Val)
    (h : (parseLoop Driver.Parse.tables env { input := text.toList } fuel).2 = .accept v)
    (hr : (parseLoop Driver.Parse.tables env { input := text.toList } fuel).1.recovered = false) :
    Derives Driver.Parse.tables (parseLoop Driver.Parse.tables env { input := text.toList } fuel).1.hist :=
  accepted_derives Driver.Parse.tables cert env (certFacts _ _ cert_ok) colsOk_run text.toList fuel v h hr

end Aidl.Props.ParseSound
