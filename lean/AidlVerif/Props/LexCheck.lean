import AidlVerif.Props.LexAccept
import AidlVerif.Props.Examples

/-!
A checker for the lexical specification, proved sound. `lexesToB f s` scans a text the way the relations of `LexSpec` are
written, skipped text (`skipB`) then one lexeme (`tokenB`), with `takeWhile` / `dropWhile` over the character classes, the
block-comment scan `firstClose` and `lastFull`; the matcher runs on a run alone, never on what follows it.

It makes the hypotheses of `relayout_same_tree` and `layout_accepted` EVALUABLE on a concrete text: the two documents of
`Examples`, by kernel evaluation of the checker (for `ex_relayout` neither the lexer nor the parser is run on either
document; for `ex_layout_accepted` the parser is never run on the second document). The compiled driver does not link the
proof modules: per-case evaluation in the suites goes through `lexToks` (key `samelex`), not through this checker.
-/

namespace Aidl.Props.LexCheck
open Aidl Aidl.Lr Aidl.Actions Aidl.Erase Aidl.Props.LrInv
open Aidl.Regex Aidl.Lexer Aidl.Javadoc Aidl.Props.JavadocTotal Aidl.Props.LexerBounds
  Aidl.Props.RegexSound Aidl.Props.JavadocSpec Aidl.Props.SkipEntries Aidl.Props.LexSkip Aidl.Props.LexerFuel Aidl.Props.LexIdent
  Aidl.Props.LexTokens Aidl.Props.LexNumbers Aidl.Props.LexRuns Aidl.Props.LexSpec Aidl.Props.LexAccept

def lastSat (p : Nat → Bool) : Nat → Option Nat
  | 0 => none
  | n + 1 => if p n then some n else lastSat p n

theorem lastSat_spec (p : Nat → Bool) : ∀ (n j : Nat), lastSat p n = some j → j < n ∧ p j = true ∧ ∀ i, i < n → p i = true → i ≤ j
  | 0, j, h => by cases h
  | n + 1, j, h => by
    unfold lastSat at h
    split at h
    · rename_i hp
      cases h
      exact ⟨Nat.lt_succ_self _, hp, fun i hi _ => by omega⟩
    · rename_i hp
      obtain ⟨h1, h2, h3⟩ := lastSat_spec p n j h
      refine ⟨by omega, h2, fun i hi hpi => ?_⟩
      rcases Nat.lt_succ_iff_lt_or_eq.mp hi with h' | h'
      · exact h3 i h' hpi
      · subst h'; exact absurd hpi hp

/-- what `LexRuns.lastFull` and `LexIdent.wordEntry` compute, here on a character list and by a walk down from the last
    entry -/
def lastFull (w : List Char) : Option Nat := lastSat (fun i => fullOn i w) Gen.lexTable.size

theorem fc_take : ∀ (st : Bool) (t : List Char) (i k : Nat), firstClose st t i = some k →
    i < k ∧ k - i ≤ t.length ∧ firstClose st (t.take (k - i)) i = some k
  | _, [], _, _, h => by simp [firstClose] at h
  | st, c :: cs, i, k, h => by
    rw [firstClose] at h
    split at h
    · rename_i h1
      cases h
      refine ⟨by omega, by simp, ?_⟩
      have : i + 1 - i = 1 := by omega
      rw [this, List.take_succ_cons, List.take_zero, firstClose, if_pos h1]
    · rename_i h1
      split at h
      · rename_i h2
        obtain ⟨a, b, c'⟩ := fc_take true cs (i + 1) k h
        have hk : k - i = (k - (i + 1)) + 1 := by omega
        refine ⟨by omega, by simp only [List.length_cons]; omega, ?_⟩
        rw [hk, List.take_succ_cons, firstClose, if_neg h1, if_pos h2]
        exact c'
      · rename_i h2
        obtain ⟨a, b, c'⟩ := fc_take false cs (i + 1) k h
        have hk : k - i = (k - (i + 1)) + 1 := by omega
        refine ⟨by omega, by simp only [List.length_cons]; omega, ?_⟩
        rw [hk, List.take_succ_cons, firstClose, if_neg h1, if_neg h2]
        exact c'

def skipB : Nat → List Char → List Char
  | 0, s => s
  | f + 1, s =>
    match s with
    | [] => []
    | c :: t =>
      if isWsChar c then skipB f ((c :: t).dropWhile isWsChar)
      else if c = '/' then
        match t with
        | '/' :: t' => skipB f ((t'.dropWhile isNotEol).dropWhile isEol)
        | '*' :: t' =>
          match firstClose false t' 0 with
          | some k => skipB f (t'.drop k)
          | none => c :: t
        | _ => c :: t
      else c :: t

theorem skipB_sound : ∀ (f : Nat) (s : List Char), Skips s (skipB f s)
  | 0, s => Skips.done s
  | f + 1, [] => Skips.done []
  | f + 1, c :: t => by
    unfold skipB
    simp only
    split
    · rename_i hws
      have hsplit : c :: t = (c :: t).takeWhile isWsChar ++ (c :: t).dropWhile isWsChar := (List.takeWhile_append_dropWhile).symm
      have hne : (c :: t).takeWhile isWsChar ≠ [] := by rw [List.takeWhile_cons_of_pos hws]; simp
      have := Skips.ws ((c :: t).takeWhile isWsChar) ((c :: t).dropWhile isWsChar) _ hne
        (mem_takeWhile_imp isWsChar (c :: t))
        (dropWhile_head_not isWsChar (c :: t))
        (skipB_sound f ((c :: t).dropWhile isWsChar))
      rw [← hsplit] at this
      exact this
    · split
      · rename_i hslash
        subst hslash
        split
        · rename_i t'
          exact Skips.line t' _ (skipB_sound f _)
        · rename_i t'
          split
          · rename_i k hk
            obtain ⟨_, hle, htake⟩ := fc_take false t' 0 k hk
            simp only [Nat.sub_zero] at hle htake
            have hlen : (t'.take k).length = k := by rw [List.length_take]; omega
            have := Skips.block (t'.take k) (t'.drop k) _ (by rw [hlen]; exact htake) (skipB_sound f (t'.drop k))
            rw [List.take_append_drop] at this
            exact this
          · exact Skips.done _
        · exact Skips.done _
      · exact Skips.done _

def wordB (c : Char) (t : List Char) : Option (Nat × List Char × List Char) :=
  (lastFull (c :: t.takeWhile isIdentPart)).map fun j => (j, c :: t.takeWhile isIdentPart, t.dropWhile isIdentPart)

def strB (t : List Char) : Option (Nat × List Char × List Char) :=
  match t.dropWhile isStrBody with
  | d :: rest => if d = '"' then some (strIdx, '"' :: t.takeWhile isStrBody ++ ['"'], rest) else none
  | [] => none

def annB (t : List Char) : Option (Nat × List Char × List Char) :=
  match t with
  | c' :: t' => if inCls identStartCls c' then some (annIdx, '@' :: c' :: t'.takeWhile isIdentPart, t'.dropWhile isIdentPart) else none
  | [] => none

def punctB (c : Char) (t : List Char) : Option (Nat × List Char × List Char) :=
  (punctEntries.find? (fun e => e.2 == c.toNat)).map fun e => (e.1, [c], t)

def numberB (c : Char) (t : List Char) : Option (Nat × List Char × List Char) :=
  if inCls floatStart c then
    (lastFull (c :: t.takeWhile (inCls floatChars))).map fun j => (j, c :: t.takeWhile (inCls floatChars), t.dropWhile (inCls floatChars))
  else none

def followOk (o a : Nat) : List Char → Bool
  | [] => true
  | d :: _ => !inCls (firstCls (deriv Gen.lexTable[o]!.1 (Char.ofNat a))) d

def sharedB (c : Char) (t : List Char) : Option (Nat × List Char × List Char) :=
  match sharedEntries.find? (fun e => e.2.1 == c.toNat) with
  | some e => if followOk e.2.2 e.2.1 t then some (e.1, [c], t) else none
  | none => none

/-- (entry, its text, what follows) -/
def tokenB (c : Char) (t : List Char) : Option (Nat × List Char × List Char) :=
  if inCls identStartCls c then wordB c t
  else if c = '"' then strB t
  else if c = '@' then annB t
  else (punctB c t).or ((numberB c t).or (sharedB c t))

theorem wordB_sound (c : Char) (t : List Char) (hc : inCls identStartCls c = true) (j : Nat) (w rest : List Char)
    (h : wordB c t = some (j, w, rest)) : TokenAt (c :: t) j w rest := by
  unfold wordB at h
  simp only [Option.map_eq_some_iff, Prod.mk.injEq] at h
  obtain ⟨j', hj', rfl, rfl, rfl⟩ := h
  obtain ⟨h1, h2, h3⟩ := lastSat_spec _ _ _ hj'
  exact (TokenAt.word c (t.takeWhile isIdentPart) (t.dropWhile isIdentPart) j' hc
    (mem_takeWhile_imp isIdentPart t) (dropWhile_head_not isIdentPart t) h1 h2 h3).cast (by simp)

theorem strB_sound (t : List Char) (j : Nat) (w rest : List Char) (h : strB t = some (j, w, rest)) : TokenAt ('"' :: t) j w rest := by
  unfold strB at h
  split at h
  · rename_i d rest' hd
    split at h
    · rename_i hdq
      subst hdq
      simp only [Option.some.injEq, Prod.mk.injEq] at h
      obtain ⟨rfl, rfl, rfl⟩ := h
      exact (TokenAt.str (t.takeWhile isStrBody) rest' (mem_takeWhile_imp isStrBody t)).cast (by
        rw [← hd]
        simp)
    · cases h
  · cases h

theorem annB_sound (t : List Char) (j : Nat) (w rest : List Char) (h : annB t = some (j, w, rest)) : TokenAt ('@' :: t) j w rest := by
  unfold annB at h
  split at h
  · rename_i c' t'
    split at h
    · rename_i hc'
      simp only [Option.some.injEq, Prod.mk.injEq] at h
      obtain ⟨rfl, rfl, rfl⟩ := h
      exact (TokenAt.ann c' (t'.takeWhile isIdentPart) (t'.dropWhile isIdentPart) hc'
        (mem_takeWhile_imp isIdentPart t') (dropWhile_head_not isIdentPart t')).cast (by simp)
    · cases h
  · cases h

theorem punctB_sound (c : Char) (t : List Char) (j : Nat) (w rest : List Char) (h : punctB c t = some (j, w, rest)) :
    TokenAt (c :: t) j w rest := by
  unfold punctB at h
  simp only [Option.map_eq_some_iff, Prod.mk.injEq] at h
  obtain ⟨e, he, rfl, rfl, rfl⟩ := h
  have hmem := List.mem_of_find?_eq_some he
  have hp := List.find?_some he
  simp only [beq_iff_eq] at hp
  exact TokenAt.punct e.1 e.2 c t hmem hp.symm

theorem numberB_sound (c : Char) (t : List Char) (j : Nat) (w rest : List Char) (h : numberB c t = some (j, w, rest)) :
    TokenAt (c :: t) j w rest := by
  unfold numberB at h
  split at h
  · rename_i hfs
    simp only [Option.map_eq_some_iff, Prod.mk.injEq] at h
    obtain ⟨j', hj', rfl, rfl, rfl⟩ := h
    obtain ⟨h1, h2, h3⟩ := lastSat_spec _ _ _ hj'
    exact (TokenAt.number c (t.takeWhile (inCls floatChars)) (t.dropWhile (inCls floatChars)) j' hfs
      (dropWhile_head_not (inCls floatChars) t) h1 h2 h3).cast (by simp)
  · cases h

theorem sharedB_sound (c : Char) (t : List Char) (j : Nat) (w rest : List Char) (h : sharedB c t = some (j, w, rest)) :
    TokenAt (c :: t) j w rest := by
  unfold sharedB at h
  split at h
  · rename_i e he
    split at h
    · rename_i hfollow
      simp only [Option.some.injEq, Prod.mk.injEq] at h
      obtain ⟨rfl, rfl, rfl⟩ := h
      have hmem := List.mem_of_find?_eq_some he
      have hp := List.find?_some he
      simp only [beq_iff_eq] at hp
      obtain ⟨_, _, _, hval, _⟩ := (mem_sharedEntries e.1 e.2.1 e.2.2).mp hmem
      have hc : Char.ofNat e.2.1 = c := by
        apply Char.toNat_inj.mp
        rw [hval, hp]
      have := TokenAt.shared e.1 e.2.1 e.2.2 t hmem (fun d u hd => by
        subst hd
        simp only [followOk, Bool.not_eq_true'] at hfollow
        exact hfollow)
      rw [hc] at this
      exact this
    · cases h
  · cases h

theorem tokenB_sound (c : Char) (t : List Char) (j : Nat) (w rest : List Char) (h : tokenB c t = some (j, w, rest)) :
    TokenAt (c :: t) j w rest := by
  unfold tokenB at h
  split at h
  · rename_i hc; exact wordB_sound c t hc j w rest h
  · split at h
    · rename_i _ hq; subst hq; exact strB_sound t j w rest h
    · split at h
      · rename_i _ _ hat; subst hat; exact annB_sound t j w rest h
      · rcases Option.or_eq_some_iff.mp h with h | ⟨_, h⟩
        · exact punctB_sound c t j w rest h
        · rcases Option.or_eq_some_iff.mp h with h | ⟨_, h⟩
          · exact numberB_sound c t j w rest h
          · exact sharedB_sound c t j w rest h

def lexesToB : Nat → List Char → Option (List (Nat × String))
  | 0, _ => none
  | f + 1, s =>
    match skipB (s.length + 1) s with
    | [] => some []
    | c :: t =>
      match tokenB c t with
      | none => none
      | some (j, w, rest) => (lexesToB f rest).map fun toks => (j, String.ofList w) :: toks

theorem lexesToB_sound : ∀ (f : Nat) (s : List Char) (toks : List (Nat × String)), lexesToB f s = some toks → LexesTo s toks
  | 0, _, _, h => by cases h
  | f + 1, s, toks, h => by
    unfold lexesToB at h
    have hsk := skipB_sound (s.length + 1) s
    split at h
    · rename_i hnil
      cases h
      rw [hnil] at hsk
      exact LexesTo.eof s hsk
    · rename_i c t hct
      rw [hct] at hsk
      split at h
      · cases h
      · rename_i j w rest htok
        simp only [Option.map_eq_some_iff] at h
        obtain ⟨toks', htoks', rfl⟩ := h
        exact LexesTo.tok s (c :: t) w rest j toks' hsk (tokenB_sound c t j w rest htok) (lexesToB_sound f rest toks' htoks')

/-- a text with every kind of skipped text, through the checker -/
example : LexesTo " a /*x*/ ;\n// end".toList [(identIdx, "a"), (semiIdx, ";")] :=
  lexesToB_sound 3 _ _ (by decide +kernel)

/-- the lexemes as character lists: `lexesToB` before the texts are made strings (equality of strings is dear to
    evaluate in the kernel, equality of character lists is not) -/
def lexemesB : Nat → List Char → Option (List (Nat × List Char))
  | 0, _ => none
  | f + 1, s =>
    match skipB (s.length + 1) s with
    | [] => some []
    | c :: t =>
      match tokenB c t with
      | none => none
      | some (j, w, rest) => (lexemesB f rest).map fun ls => (j, w) :: ls

theorem lexesToB_eq : ∀ (f : Nat) (s : List Char),
    lexesToB f s = (lexemesB f s).map (List.map fun l => (l.1, String.ofList l.2))
  | 0, _ => rfl
  | f + 1, s => by
    unfold lexesToB lexemesB
    split
    · rfl
    · split
      · rfl
      · rw [lexesToB_eq f]
        cases lexemesB f _ <;> rfl

open Aidl.Props.Examples in
theorem ex_lexesTo : ∃ toks, LexesTo doc1.toList toks ∧ LexesTo doc2.toList toks ∧ 30 < toks.length := by
  have h : lexemesB (doc1.toList.length + 1) doc1.toList = lexemesB (doc2.toList.length + 1) doc2.toList
      ∧ 30 < ((lexemesB (doc1.toList.length + 1) doc1.toList).getD []).length := by
    -- each `rw` turns one literal into its list of characters by unification; left as `toList` of a literal, the
    -- texts would be decoded from UTF-8 by evaluation, which costs more than the two scans
    unfold doc1 doc2
    rw [String.toList_ofList, String.toList_ofList]
    decide +kernel
  cases ha : lexemesB (doc1.toList.length + 1) doc1.toList with
  | none =>
    rw [ha] at h
    exact absurd h.2 (by decide)
  | some a =>
    rw [ha] at h
    refine ⟨a.map fun l => (l.1, String.ofList l.2), ?_, ?_, by simpa using h.2⟩
    · exact lexesToB_sound _ _ _ (by rw [lexesToB_eq, ha]; rfl)
    · exact lexesToB_sound _ _ _ (by rw [lexesToB_eq, ← h.1]; rfl)

open Aidl.Props.Examples in
theorem ex_relayout : ∃ r1 r2, addContentE Driver.Parse.tables (envOf doc1) "1" doc1 = .ok r1
    ∧ addContentE Driver.Parse.tables (envOf doc2) "2" doc2 = .ok r2
    ∧ r1.ast.map erAidl = r2.ast.map erAidl := by
  obtain ⟨toks, h1, h2, _⟩ := ex_lexesTo
  exact relayout_same_tree (envOf doc1) (envOf doc2) "1" "2" doc1 doc2 (envOf_ok doc1) (envOf_ok doc2) toks h1 h2

open Aidl.Props.Examples in
/-- `layout_accepted` applied to `doc2`: its lexemes come from the checker, their columns are those `Examples.ex_run`
    evaluated, their derivability comes from the accepting run on the OTHER layout `doc1` (soundness of the parser
    model) — `doc2` itself is never run through the parser -/
theorem ex_layout_accepted : ∃ r v, addContentE Driver.Parse.tables (envOf doc2) "2" doc2 = .ok r
    ∧ (parseLoop Driver.Parse.tables (envOf doc2) { input := doc2.toList } (parseFuel doc2)).2 = .accept v
    ∧ (parseLoop Driver.Parse.tables (envOf doc2) { input := doc2.toList } (parseFuel doc2)).1.recovered = false := by
  obtain ⟨toks, _, hl, _⟩ := ex_lexesTo
  obtain ⟨s, _, _, _, _, hc, hd⟩ := ex_run'
  -- `Nat.lt_add_one`: a proof whose type has to be unified with this bound makes the elaborator evaluate `doc2.toList.length`
  rw [lexColsOf_eq _ _ _ _ _ (lexToks_of_lexesTo hl (doc2.toList.length + 1) 0 (Nat.lt_add_one _))] at hc
  exact layout_accepted (envOf doc2) "2" doc2 (envOf_ok doc2) toks s.hist hl hc hd

end Aidl.Props.LexCheck
