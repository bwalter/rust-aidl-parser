import AidlVerif.Props.C05
import AidlVerif.Props.C06
import AidlVerif.Props.C08

/-!
# The context message of every diagnostic names the step that pushed it

Every diagnostic constructor of `validation.rs` writes a literal context message. `groups_ctx`: for
every file, project and hash order, the diagnostics of each validation step carry one of the
messages of that step. The lists are disjoint where the oracles of C05 and C08 need it, so their
hypothesis `Fresh` ("no diagnostic of another step carries the message of this one") holds whenever
the syntax-stage diagnostics carry syntax-stage messages (`CtxIn synCtxs`) — which
`PipelineTotal.parsed_synCtx` proves of every parser output.
-/

namespace Aidl.Props.DiagCtx
open Aidl Aidl.Spec

def CtxIn (L : List (Option String)) (ds : List Diag) : Prop := ∀ d ∈ ds, d.context ∈ L

theorem CtxIn.nil (L : List (Option String)) : CtxIn L [] := by intro d h; cases h

theorem CtxIn.append {L : List (Option String)} {a b : List Diag} (ha : CtxIn L a) (hb : CtxIn L b) : CtxIn L (a ++ b) :=
  List.forall_mem_append.mpr ⟨ha, hb⟩

theorem CtxIn.single {L : List (Option String)} (d : Diag) (h : d.context ∈ L) : CtxIn L [d] :=
  List.forall_mem_singleton.mpr h

theorem CtxIn.ite {L : List (Option String)} (c : Prop) [Decidable c] (d : Diag) (h : d.context ∈ L) :
    CtxIn L (if c then [d] else []) := by
  split
  · exact .single d h
  · exact .nil L

theorem CtxIn.flatMap {L : List (Option String)} {α} (l : List α) (f : α → List Diag) (h : ∀ a ∈ l, CtxIn L (f a)) :
    CtxIn L (l.flatMap f) :=
  List.forall_mem_flatMap.mpr h

def synCtxs : List (Option String) :=
  [none, some "invalid token", some "unrecognized EOF", some "unrecognized token", some "extra token"]
def unknownCtxs : List (Option String) := [some "unknown type"]
def importCtxs : List (Option String) := [some "duplicated import", some "unresolved import", some "unused import"]
def declCtxs : List (Option String) :=
  [some "conflicting declaration", some "duplicated declaration", some "unused declared parcelable", some "declared parcelable"]
def containerCtxs : List (Option String) := C08.containerContexts.map some
def onewayCtxs : List (Option String) := [some "redundant oneway"]
/-- `none`: the mixed-ids Error has no context message; `"duplicated import"`: validation.rs gives
    the duplicate-id Error the message of the duplicate-import one -/
def methodCtxs : List (Option String) :=
  [some "missing direction", some "invalid direction", some "invalid argument", some "must be void",
   some "duplicated method name", none, some "duplicated import"]

theorem importsFold_ctx (imports : List Import) : CtxIn importCtxs (importsFold imports).2 := by
  rw [Props.C06.importsFold_eq]
  intro d hd
  obtain ⟨x, _, h | ⟨p, rfl⟩⟩ := mem_pushed _ _ _ _ _ d hd
  · cases h
  · simp [Props.C06.dupImportDiag, mkDiag, importCtxs]

theorem importUsage_ctx (resolved : List String) (defined : Defined) (e : String × Import) :
    CtxIn importCtxs (importUsageDiag resolved defined e) := by
  unfold importUsageDiag
  split
  · exact .single _ (by simp [mkDiag, importCtxs])
  · exact .ite _ _ (by simp [mkDiag, importCtxs])

theorem checkImports_ctx (ho : HashOrder) (imports : List Import) (resolved : List String) (defined : Defined) :
    CtxIn importCtxs (checkImports ho imports resolved defined).2 := by
  unfold checkImports
  exact (importsFold_ctx imports).append (CtxIn.flatMap _ _ (fun e _ => importUsage_ctx resolved defined e))

theorem declaredFold_ctx (declared : List Import) (importMap : List (String × Import)) :
    CtxIn declCtxs (declaredFold declared importMap).2 := by
  rw [Props.C06.declaredFold_eq]
  intro d hd
  obtain ⟨x, _, h | ⟨p, rfl⟩⟩ := mem_pushed _ _ _ _ _ d hd
  · obtain ⟨c, -, rfl⟩ := Option.map_eq_some_iff.mp h
    simp [mkDiag, declCtxs]
  · simp [Props.C06.dupDeclDiag, mkDiag, declCtxs]

theorem declaredUsage_ctx (resolved : List String) (e : String × Import) : CtxIn declCtxs (declaredUsageDiag resolved e) := by
  unfold declaredUsageDiag
  split <;> exact .single _ (by simp [mkDiag, declCtxs])

theorem checkDeclared_ctx (ho : HashOrder) (declared : List Import) (importMap : List (String × Import)) (resolved : List String) :
    CtxIn declCtxs (checkDeclaredParcelables ho declared importMap resolved) := by
  unfold checkDeclaredParcelables
  exact (declaredFold_ctx declared importMap).append (CtxIn.flatMap _ _ (fun e _ => declaredUsage_ctx resolved e))

theorem setUpOneway_ctx (x : AidlFile) : CtxIn onewayCtxs (setUpOneway x).2 := by
  rw [setUpOneway_diags]
  intro d hd
  split at hd
  · split at hd
    · obtain ⟨m, _, rfl⟩ := List.mem_map.mp hd
      exact List.mem_singleton.mpr rfl
    · cases hd
  · cases hd

theorem checkMethodArg_ctx (ow : Bool) (a : Arg) : CtxIn methodCtxs (checkMethodArg ow a) := by
  unfold checkMethodArg
  dsimp only
  refine .append ?_ (.ite _ _ (by simp [mkDiag, methodCtxs]))
  -- by the requirement of the argument's type
  split
  · exact .ite _ _ (by simp [mkDiag, methodCtxs])
  · exact .ite _ _ (by simp [mkDiag, methodCtxs])
  · exact .ite _ _ (by simp [mkDiag, methodCtxs])
  · exact .single _ (by simp [mkDiag, methodCtxs])
  · exact .nil _

theorem checkMethod_ctx (m : Method) : CtxIn methodCtxs (checkMethod m) := by
  unfold checkMethod returnDiags checkMethodArgs
  exact .append (.ite _ _ (by simp [mkDiag, methodCtxs])) (.flatMap _ _ fun a _ => checkMethodArg_ctx _ a)

theorem checkMethodIdsStep_ctx (s s' : IdState) (m : Method) (new : List Diag)
    (h : checkMethodIdsStep s m = .ok (s', new)) : CtxIn methodCtxs new := by
  unfold checkMethodIdsStep at h
  split at h
  · cases h
    exact CtxIn.single _ (by simp [mkDiag, methodCtxs])
  · dsimp only at h
    split at h
    · cases h
    · rename_i mixedDiags hmixed
      have hm : CtxIn methodCtxs mixedDiags := by
        split at hmixed
        · split at hmixed
          · cases hmixed
            exact CtxIn.single _ (by simp [mkDiag, methodCtxs])
          · cases hmixed
        · cases hmixed
          exact CtxIn.nil _
      split at h
      · cases h; exact hm
      · split at h
        · cases h
          exact hm.append (CtxIn.single _ (by simp [mkDiag, methodCtxs]))
        · cases h; exact hm

theorem idDiagsLoop_ctx : ∀ (ms : List Method) (s : IdState) (ids : List Diag),
    idDiagsLoop s ms = .ok ids → CtxIn methodCtxs ids
  | [], _, _, h => by
    cases h
    exact CtxIn.nil _
  | m :: ms, s, ids, h => by
    rw [idDiagsLoop] at h
    cases hstep : checkMethodIdsStep s m with
    | error e =>
      rw [hstep] at h
      cases h
    | ok r =>
      obtain ⟨s', new⟩ := r
      rw [hstep] at h
      simp only at h
      cases hrest : idDiagsLoop s' ms with
      | error e =>
        rw [hrest] at h
        cases h
      | ok rest =>
        rw [hrest] at h
        cases h
        exact (checkMethodIdsStep_ctx s s' m new hstep).append (idDiagsLoop_ctx ms s' rest hrest)

theorem checkMethods_ctx (ast : AidlFile) (ds : List Diag) (h : checkMethods ast = .ok ds) : CtxIn methodCtxs ds := by
  obtain ⟨ids, hids, hperm⟩ := checkMethods_perm ast ds h
  intro d hd
  exact ((CtxIn.flatMap _ _ fun m _ => checkMethod_ctx m).append (idDiagsLoop_ctx _ _ _ hids)) d (hperm.mem_iff.mp hd)

theorem containers_ctx {d : Diag} (h : C08.isContainerDiag d = true) : d.context ∈ containerCtxs := by
  unfold C08.isContainerDiag at h
  split at h
  · rename_i c hc
    rw [hc]
    exact List.mem_map.mpr ⟨c, by simpa using h, rfl⟩
  · cases h

theorem groups_ctx {ho : HashOrder} {defined : Defined} {syn : List Diag} {ast : AidlFile} {g : Groups}
    (hg : validateGroups ho defined syn ast = .ok g) :
    g.syn = syn ∧ CtxIn unknownCtxs g.unknown ∧ CtxIn importCtxs g.imports ∧ CtxIn declCtxs g.decls
      ∧ CtxIn containerCtxs g.containers ∧ CtxIn onewayCtxs g.oneway ∧ CtxIn methodCtxs g.methods := by
  have V := validated hg
  refine ⟨V.syn_eq, ?_, V.imports_eq ▸ checkImports_ctx _ _ _ _, V.decls_eq ▸ checkDeclared_ctx _ _ _ _,
    fun d hd => containers_ctx ((Props.C08.checkContainers_eq _ _ V.containers_ok).2 d hd), V.oneway_eq ▸ setUpOneway_ctx _,
    checkMethods_ctx _ _ V.methods_ok⟩
  rw [V.unknown_eq]
  intro d hd
  obtain ⟨t, _, rfl⟩ := List.mem_map.mp hd
  exact List.mem_singleton.mpr rfl

theorem CtxIn.fresh {L M : List (Option String)} {ds : List Diag} (h : CtxIn L ds) (hLM : ∀ c ∈ L, c ∉ M)
    {p : Diag → Bool} (hp : ∀ d, p d = true → d.context ∈ M) : ∀ d ∈ ds, p d = false := by
  intro d hd
  cases hpd : p d with
  | false => rfl
  | true => exact absurd (hp d hpd) (hLM _ (h d hd))

theorem CtxIn.union {L L' : List (Option String)} {a b : List Diag} (ha : CtxIn L a) (hb : CtxIn L' b) :
    CtxIn (L ++ L') (a ++ b) :=
  CtxIn.append (fun d hd => List.mem_append_left _ (ha d hd)) (fun d hd => List.mem_append_right _ (hb d hd))

theorem fresh_C05 {ho : HashOrder} {defined : Defined} {syn : List Diag} {ast : AidlFile} {g : Groups}
    (hg : validateGroups ho defined syn ast = .ok g) (hsyn : CtxIn synCtxs syn) : Props.C05.Fresh g := by
  obtain ⟨h0, _, h2, h3, h4, h5, h6⟩ := groups_ctx hg
  refine ((((((h0 ▸ hsyn).union h2).union h3).union h4).union h5).union h6).fresh (M := unknownCtxs)
    (by decide +kernel) fun d hd => ?_
  simp only [C05.isUnknownType, Bool.and_eq_true, beq_iff_eq] at hd
  exact List.mem_singleton.mpr hd.2

theorem fresh_C08 {ho : HashOrder} {defined : Defined} {syn : List Diag} {ast : AidlFile} {g : Groups}
    (hg : validateGroups ho defined syn ast = .ok g) (hsyn : CtxIn synCtxs syn) : Props.C08.Fresh g := by
  obtain ⟨h0, h1, h2, h3, _, h5, h6⟩ := groups_ctx hg
  exact ((((((h0 ▸ hsyn).union h1).union h2).union h3).union h5).union h6).fresh (M := containerCtxs)
    (by decide +kernel) fun _ hd => containers_ctx hd

end Aidl.Props.DiagCtx
