import AidlVerif.Spec.C10
import AidlVerif.Lemmas.Validate

namespace Aidl.Props.C10
open Aidl Aidl.Spec Aidl.Spec.C10

theorem newKind_void (imports declared : List String) (defined : Defined) (t : Ty) :
    (Spec.C05.newKind imports declared defined t = .void) ↔ (t.kind = .void) :=
  Props.C05.newKind_eq_iff imports declared defined t ⟨nofun, fun _ => nofun, fun _ _ => nofun⟩

theorem newKind_bne_void (imports declared : List String) (defined : Defined) (t : Ty) :
    (Spec.C05.newKind imports declared defined t != .void) = (t.kind != .void) := by
  rw [Bool.eq_iff_iff]
  simp [newKind_void]

theorem methodsOf_validated {ho : HashOrder} {defined : Defined} {syn : List Diag} {ast : AidlFile} {g : Groups}
    (hg : validateGroups ho defined syn ast = .ok g) :
    methodsOf g.ast = (methodsOf ast).map (fun m =>
      { m.mapTypes (Spec.C05.newKind (ast.imports.map Import.qname) (ast.declaredParcelables.map Import.qname) defined)
        with oneway := m.oneway || interfaceOneway ast }) := by
  rw [(validated hg).ast_eq, methodsOf_setUpOneway, interfaceOneway_mapTypes, methodsOf_mapTypes]
  cases hio : interfaceOneway ast
  · simp only [Bool.false_eq_true, if_false, Bool.or_false]
    apply List.map_congr_left
    intro m _
    cases m; rfl
  · simp only [if_true, Bool.or_true, List.map_map]
    apply List.map_congr_left
    intro m _
    rfl

theorem interfaceOneway_validated {ho : HashOrder} {defined : Defined} {syn : List Diag} {ast : AidlFile} {g : Groups}
    (hg : validateGroups ho defined syn ast = .ok g) : interfaceOneway g.ast = interfaceOneway ast := by
  rw [(validated hg).ast_eq, interfaceOneway_setUpOneway, interfaceOneway_mapTypes]

theorem flags {ho : HashOrder} {defined : Defined} {syn : List Diag} {ast : AidlFile} {g : Groups}
    (hg : validateGroups ho defined syn ast = .ok g) :
    (methodsOf g.ast).map (·.oneway) = (methodsOf ast).map (fun m => m.oneway || interfaceOneway ast) := by
  rw [methodsOf_validated hg, List.map_map]
  rfl

theorem warningsAt_setUpOneway (x : AidlFile) (r : Range) :
    warningsAt (setUpOneway x).2 r
      = ((methodsOf x).filter (fun m => interfaceOneway x && m.oneway && m.onewayRange == r)).length := by
  rw [setUpOneway_diags]
  unfold warningsAt methodsOf interfaceOneway
  cases hitem : x.item with
  | interface i =>
    simp only
    by_cases hio : i.oneway = true
    · simp only [hio, if_true, Bool.true_and]
      rw [List.countP_map, List.countP_filter, List.countP_eq_length_filter]
      congr 1
      apply List.filter_congr
      intro m _
      simp only [onewayWarning, mkDiag, Function.comp, true_and]
      by_cases hr : m.onewayRange = r <;> simp [hr]
    · have : i.oneway = false := by simpa using hio
      simp only [this, Bool.false_eq_true, if_false, Bool.false_and, List.countP_nil]
      generalize i.methods = l
      induction l <;> simp_all
  | parcelable p => simp
  | enum e => simp

theorem errorsAt_returnDiags (ms : List Method) (r : Range) :
    errorsAt (ms.flatMap returnDiags) r
      = (ms.filter (fun m => m.oneway && m.returnType.kind != .void && m.returnType.sym == r)).length := by
  unfold errorsAt
  induction ms with
  | nil => rfl
  | cons m ms ih =>
    simp only [List.flatMap_cons, List.countP_append, ih, List.filter_cons]
    unfold returnDiags
    by_cases ho : m.oneway = true <;> by_cases hv : m.returnType.kind = .void <;>
      by_cases hs : m.returnType.sym = r <;> simp [ho, hv, hs, mkDiag] <;> omega

/-- hypotheses on ranges (decidable; evaluated by the harness on every case): no other Warning
    sits on a method's `oneway` range, no other Error on a method's return-type name -/
def Fresh (ast : AidlFile) (g : Groups) (ids : List Diag) : Prop :=
  (∀ d ∈ g.syn ++ g.unknown ++ g.imports ++ g.decls ++ g.containers ++ g.methods,
      d.kind = .warning → ∀ m ∈ methodsOf ast, d.range ≠ m.onewayRange)
  ∧ (∀ d ∈ g.syn ++ g.unknown ++ g.imports ++ g.decls ++ g.containers ++ g.oneway ++ argDiags g.ast ++ ids,
      d.kind = .error → ∀ m ∈ methodsOf ast, d.range ≠ m.returnType.sym)

instance (ast : AidlFile) (g : Groups) (ids : List Diag) : Decidable (Fresh ast g ids) := by
  unfold Fresh; infer_instance

/-- **C10 for the model**: in a validated file a method is oneway iff the source says so or the
    interface is oneway; the Warnings on a method's `oneway` keyword are one per method of a oneway
    interface that spells `oneway` there, and the Errors on a method's return type one per method
    that is oneway after propagation and returns something other than `void` there. -/
theorem holds (ho : HashOrder) (defined : Defined) (fr out : FileResult)
    (h : validateFile ho defined fr = .ok out)
    (fresh : ∀ ast g ids, fr.ast = some ast → validateGroups ho defined fr.diags ast = .ok g →
      idDiagsLoop {} (methodsOf g.ast) = .ok ids → Fresh ast g ids) :
    holdsFile fr out = true := by
  obtain ⟨hast, rfl⟩ | ⟨ast, g, hast, hg, rfl⟩ := validateFile_eq_ok h
  · simp [holdsFile, hast]
  have V := validated hg
  obtain ⟨ids, hids, -, hperm⟩ := groups_perm V.methods_ok
  obtain ⟨fw, fe⟩ := fresh ast g ids hast hg hids
  simp only [holdsFile, hast, flags hg, interfaceOneway_validated hg, Bool.and_eq_true, beq_self_eq_true,
    true_and, List.all_eq_true, beq_iff_eq]
  constructor
  · -- Warnings on the redundant keyword: only `set_up_oneway_interface` pushes them
    intro m hm
    rw [warningsAt, countP_group g.all_perm_oneway fun d hd => by simpa using fun hk => fw d hd hk m hm,
      V.oneway_eq, ← warningsAt, warningsAt_setUpOneway, methodsOf_mapTypes, interfaceOneway_mapTypes,
      List.filter_map, List.length_map]
    rfl
  · -- Errors on the return type: only the return check pushes them
    intro m hm
    rw [errorsAt, countP_group hperm fun d hd => by simpa using fun hk => fe d hd hk m hm,
      ← errorsAt, errorsAt_returnDiags, methodsOf_validated hg, List.filter_map, List.length_map]
    simp only [Function.comp_def, Method.mapTypes, Ty.mapKind_sym, Ty.mapKind_kind, newKind_bne_void]

end Aidl.Props.C10
