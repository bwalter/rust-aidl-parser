import AidlVerif.Props.ActionsTyped

/-!
`TyTables.actionsOk` checks the regenerated action table (kernel evaluation: `actions_typed`): every action carrying user
text has the signature `labelSigs` gives its label, every generic builder and every composite action is well typed and
well scoped against the signatures, and calls descend in rank, so the nesting fuel suffices. That a production passes
its symbols' types to its action is `LrTyped.tablesOk`. Soundness (`evalAction_typed`): well-typed arguments in,
well-typed value out, no `shape`, `table` or `lexical` panic. The namespace is that of `Typed.lean`: `tools/props.py`
audits `Aidl.Props.Typed.evalAction_typed`.
-/

namespace Aidl.Props.Typed
open Aidl Aidl.Actions Aidl.Typing Aidl.Lexer

variable {env : Env}

structure TyTables where
  defs : Array ActionDef
  sigs : Array Sig
  symTys : Array VTy
  ranks : Array Nat
  reports : Array Bool       -- claimed: running this action reports an Error

namespace TyTables
variable (TT : TyTables)

/-- an action without a rank gets one no check accepts (every bound it is compared with is at most 16) -/
def rankOf (id : Nat) : Nat := (TT.ranks[id]?).getD 1000
def reportsOf (id : Nat) : Bool := (TT.reports[id]?).getD false

def stmtsReport : List Stmt → Bool
  | [] => false
  | .letCall _ a _ :: rest => TT.reportsOf a || stmtsReport rest
  | .ret a _ :: _ => TT.reportsOf a
  | _ :: rest => stmtsReport rest

def checkPrim (sg : Sig) : Prim → Bool
  | .arg i => sg.params[i]? == some (.triple sg.ret) || (sg.params[i]? == some .locRef && sg.ret == .loc)
  | .some i => match sg.ret with
    | .opt t => sg.params[i]? == some (.triple t)
    | .optNS t => sg.params[i]? == some (.triple t)
    | _ => false
  | .none => match sg.ret with
    | .opt _ => true
    | _ => false
  | .nil => match sg.ret with
    | .list _ => true
    | _ => false
  | .sing i => match sg.ret with
    | .list t => sg.params[i]? == some (.triple t)
    | _ => false
  | .push v e => match sg.ret with
    | .list t => sg.params[v]? == some (.triple (.list t)) && sg.params[e]? == some (.triple t)
    | _ => false
  | .pushOpt v e => match sg.ret with
    | .list t => sg.params[v]? == some (.triple (.list t)) && sg.params[e]? == some (.triple (.opt t))
    | _ => false
  | .pair i j => match sg.ret with
    | .pair a b => sg.params[i]? == some (.triple a) && sg.params[j]? == some (.triple b)
    | _ => false

def argTy (own : Sig) (locs : List String) (temps : List (String × VTy)) : ArgExpr → Option ATy
  | .param i => own.params[i]?
  | .temp n => (temps.lookup n).map .triple
  | .loc n => if locs.contains n then some .locRef else none

def locOk (own : Sig) (locs : List String) : LocExpr → Bool
  | .param i _ => (own.params[i]?).isSome
  | .var n => locs.contains n

def checkStmts (own : Sig) (rank : Nat) : List String → List (String × VTy) → List Stmt → Bool
  | _, _, [] => false
  | locs, temps, .letLoc n e :: rest => locOk own locs e && checkStmts own rank (n :: locs) temps rest
  | locs, temps, .letCall n a as :: rest =>
    match TT.sigs[a]? with
    | some sg => as.mapM (argTy own locs temps) == some sg.params && decide (TT.rankOf a < rank)
        && checkStmts own rank locs ((n, sg.ret) :: temps) rest
    | none => false
  | locs, temps, .letTriple n s e :: rest =>
    locs.contains s && locs.contains e && (temps.lookup n).isSome && checkStmts own rank locs temps rest
  | locs, temps, .ret a as :: _ =>
    match TT.sigs[a]? with
    | some sg => as.mapM (argTy own locs temps) == some sg.params && sg.ret == own.ret && decide (TT.rankOf a < rank)
    | none => false

def checkAction (id : Nat) : Bool :=
  match TT.defs[id]?, TT.sigs[id]? with
  | some (.user _ print), some sg =>
    (printToLabel.lookup print).bind (fun L => labelSigs.lookup L) == some sg
      && (!TT.reportsOf id || (match printToLabel.lookup print with
                               | some L => recoveryLabels.contains L
                               | none => false))
  | some (.prim _ p), some sg => checkPrim sg p && !TT.reportsOf id
  | some (.composite _ body), some sg =>
    TT.checkStmts sg (TT.rankOf id) [] [] body && (!TT.reportsOf id || TT.stmtsReport body)
  | _, _ => false

/-- 16 is the nesting bound `Lr.reduceCore` hands to `evalAction` -/
def actionsOk : Bool :=
  TT.defs.size == TT.sigs.size && (List.range TT.defs.size).all fun id => TT.checkAction id && decide (TT.rankOf id < 16)

/-! `actionsOk` looks every action up by its index in four arrays, and on an array literal the kernel pays a pass over
the array for each lookup. `walk` reads the four arrays side by side; it is what the kernel evaluates (`actions_typed`). -/

/-- `checkAction`, given what it looks up -/
def checkAt (d : Option ActionDef) (sg : Option Sig) (rank : Nat) (reports : Bool) : Bool :=
  match d, sg with
  | some (.user _ print), some sg =>
    (printToLabel.lookup print).bind (fun L => labelSigs.lookup L) == some sg
      && (!reports || (match printToLabel.lookup print with
                       | some L => recoveryLabels.contains L
                       | none => false))
  | some (.prim _ p), some sg => checkPrim sg p && !reports
  | some (.composite _ body), some sg => TT.checkStmts sg rank [] [] body && (!reports || TT.stmtsReport body)
  | _, _ => false

def walk : List ActionDef → List Sig → List Nat → List Bool → Bool
  | [], [], _, _ => true
  | d :: ds, sg :: sgs, rs, bs =>
    TT.checkAt (some d) (some sg) (rs.headD 1000) (bs.headD false) && decide (rs.headD 1000 < 16) && walk ds sgs rs.tail bs.tail
  | _, _, _, _ => false

theorem walk_eq : ∀ (ds : List ActionDef) (sgs : List Sig) (rs : List Nat) (bs : List Bool), ds.length = sgs.length →
    TT.walk ds sgs rs bs = (List.range ds.length).all fun i =>
      TT.checkAt ds[i]? sgs[i]? ((rs[i]?).getD 1000) ((bs[i]?).getD false) && decide ((rs[i]?).getD 1000 < 16)
  | [], [], _, _, _ => rfl
  | d :: ds, sg :: sgs, rs, bs, h => by
    rw [walk, walk_eq ds sgs rs.tail bs.tail (Nat.succ.inj h), List.length_cons, List.range_succ_eq_map, List.all_cons, List.all_map]
    simp only [List.getElem?_cons_zero, List.getElem?_cons_succ, List.getElem?_tail, List.headD_eq_head?_getD,
      List.head?_eq_getElem?, Function.comp_def]
  | [], _ :: _, _, _, h => nomatch h
  | _ :: _, [], _, _, h => nomatch h

theorem actionsOk_eq_walk :
    TT.actionsOk = (TT.defs.size == TT.sigs.size && TT.walk TT.defs.toList TT.sigs.toList TT.ranks.toList TT.reports.toList) := by
  unfold actionsOk
  cases h : TT.defs.size == TT.sigs.size with
  | false => rfl
  | true =>
    rw [Bool.true_and, Bool.true_and, walk_eq _ _ _ _ _ (by simpa using h), Array.length_toList]
    simp only [Array.getElem?_toList]
    rfl

end TyTables

theorem hasTy_snoc {E : Prop} {t : VTy} {l : List Val} {x : Val} (hl : ∀ y ∈ l, HasTy E t y) (hx : HasTy E t x) :
    HasTy E (.list t) (.list (l ++ [x])) :=
  List.forall_mem_append.mpr ⟨hl, List.forall_mem_singleton.mpr hx⟩

theorem evalPrim_pur {E : Prop} {sg : Sig} {p : Prim} (hp : TyTables.checkPrim sg p = true) {args : List ArgV}
    (h : ArgsTyped E sg.params args) : Pur env (evalPrim p args) (HasTy E sg.ret) := by
  obtain ⟨params, ret⟩ := sg
  cases p <;> simp only [evalPrim, TyTables.checkPrim] at hp ⊢
  case arg i =>
    simp only [Bool.or_eq_true, Bool.and_eq_true, beq_iff_eq] at hp
    rcases hp with hp | ⟨hp, rfl⟩
    · exact pur_nth h hp
    · obtain ⟨a, ha, hty⟩ := h.get hp
      unfold nth
      rw [ha]
      cases a with
      | triple s v e => exact hty.elim
      | locRef n => exact .pure trivial
  case some i =>
    split at hp
    · exact (pur_nth h (eq_of_beq hp)).bind fun _ hv => .pure hv
    · exact (pur_nth h (eq_of_beq hp)).bind fun _ hv => .pure hv
    · cases hp
  case none =>
    split at hp
    · exact .pure trivial
    · cases hp
  case nil =>
    split at hp
    · exact .pure nofun
    · cases hp
  case sing i =>
    split at hp
    · exact (pur_nth h (eq_of_beq hp)).bind fun _ hv => .pure (List.forall_mem_singleton.mpr hv)
    · cases hp
  case push v e =>
    split at hp
    · rw [Bool.and_eq_true] at hp
      refine (pur_nth h (eq_of_beq hp.1)).bind fun _ hl => (pur_asList hl).bind fun _ hl' => ?_
      exact (pur_nth h (eq_of_beq hp.2)).bind fun _ hx => .pure (hasTy_snoc hl' hx)
    · cases hp
  case pushOpt v e =>
    split at hp
    · rw [Bool.and_eq_true] at hp
      refine (pur_nth h (eq_of_beq hp.2)).bind fun _ ho => (pur_asOpt ho).bind fun o ho' => ?_
      cases o with
      | none => exact pur_nth h (eq_of_beq hp.1)
      | some x => exact (pur_nth h (eq_of_beq hp.1)).bind fun _ hl => (pur_asList hl).bind fun _ hl' => .pure (hasTy_snoc hl' (ho' x rfl))
    · cases hp
  case pair i j =>
    split at hp
    · rw [Bool.and_eq_true] at hp
      exact (pur_nth h (eq_of_beq hp.1)).bind fun _ hx => (pur_nth h (eq_of_beq hp.2)).bind fun _ hy => .pure ⟨hx, hy⟩
    · cases hp

def ScopeOk (E : Prop) (locs : List String) (temps : List (String × VTy)) (sc : Scope) : Prop :=
  (∀ n, n ∈ locs → (sc.locs.lookup n).isSome = true) ∧
  (∀ n t, temps.lookup n = some t → ∃ a v b, sc.temps.lookup n = some (.triple a v b) ∧ HasTy E t v)

theorem ScopeOk.mono {E E' : Prop} (h : E → E') {locs temps sc} (hs : ScopeOk E locs temps sc) : ScopeOk E' locs temps sc :=
  ⟨hs.1, fun n t hn => by
    obtain ⟨a, v, b, h1, h2⟩ := hs.2 n t hn
    exact ⟨a, v, b, h1, HasTy.mono h _ _ h2⟩⟩

theorem scopeOk_empty (E : Prop) : ScopeOk E [] [] {} := ⟨nofun, nofun⟩

variable {E : Prop} {own : Sig} {locs : List String} {temps : List (String × VTy)} {sc : Scope} {args : List ArgV}

theorem ScopeOk.loc (hs : ScopeOk E locs temps sc) (n : String) (v : Nat) :
    ScopeOk E (n :: locs) temps { sc with locs := (n, v) :: sc.locs } := by
  refine ⟨fun m hm => ?_, hs.2⟩
  rw [List.lookup_cons]
  cases hmn : m == n
  · exact hs.1 m ((List.mem_cons.mp hm).resolve_left (ne_of_beq_false hmn))
  · rfl

theorem ScopeOk.temp (hs : ScopeOk E locs temps sc) (n : String) {t : VTy} {v : Val} (hv : HasTy E t v) (a b : Nat) :
    ScopeOk E locs ((n, t) :: temps) { sc with temps := (n, .triple a v b) :: sc.temps } := by
  refine ⟨hs.1, fun m t' hm => ?_⟩
  rw [List.lookup_cons] at hm ⊢
  cases hmn : m == n
  · rw [hmn] at hm
    exact hs.2 m t' hm
  · rw [hmn] at hm
    cases hm
    exact ⟨a, v, b, rfl, hv⟩

/-- `letTriple`: a temporary gets its locations; its value, hence its type, stays -/
theorem ScopeOk.retriple (hs : ScopeOk E locs temps sc) {n : String} {a b : Nat} {v : Val}
    (hn : sc.temps.lookup n = some (.triple a v b)) (a' b' : Nat) :
    ScopeOk E locs temps { sc with temps := (n, .triple a' v b') :: sc.temps } := by
  refine ⟨hs.1, fun m t hm => ?_⟩
  obtain ⟨a1, v1, b1, h1, h2⟩ := hs.2 m t hm
  rw [List.lookup_cons]
  cases hmn : m == n
  · exact ⟨a1, v1, b1, h1, h2⟩
  · rw [eq_of_beq hmn, hn] at h1
    cases h1
    exact ⟨a', v, b', rfl, h2⟩

theorem evalLoc_pur {e : LocExpr} (hargs : ArgsTyped E own.params args) (hs : ScopeOk E locs temps sc)
    (hok : TyTables.locOk own locs e = true) : Pur env (evalLoc sc args e) (fun _ => True) := by
  cases e with
  | param i start =>
    simp only [TyTables.locOk, Option.isSome_iff_exists] at hok
    obtain ⟨t, ht⟩ := hok
    obtain ⟨a, ha, _⟩ := hargs.get ht
    simp only [evalLoc, ha]
    cases a <;> exact .pure trivial
  | var n =>
    obtain ⟨v, hv⟩ := Option.isSome_iff_exists.mp (hs.1 n (List.contains_iff_mem.mp hok))
    simp only [evalLoc, hv]
    exact .pure trivial

theorem evalArg_pur {e : ArgExpr} {t : ATy} (hargs : ArgsTyped E own.params args) (hs : ScopeOk E locs temps sc)
    (hty : TyTables.argTy own locs temps e = some t) : Pur env (evalArg sc args e) (HasATy E t) := by
  cases e with
  | param i =>
    obtain ⟨a, ha, hta⟩ := hargs.get hty
    simp only [evalArg, ha]
    exact .pure hta
  | temp n =>
    simp only [TyTables.argTy, Option.map_eq_some_iff] at hty
    obtain ⟨vt, h1, rfl⟩ := hty
    obtain ⟨a, v, b, h2, h3⟩ := hs.2 n vt h1
    simp only [evalArg, h2]
    exact .pure h3
  | loc n =>
    simp only [TyTables.argTy, List.contains_eq_mem, decide_eq_true_eq, Option.ite_none_right_eq_some, Option.some.injEq] at hty
    obtain ⟨hn, rfl⟩ := hty
    obtain ⟨v, hv⟩ := Option.isSome_iff_exists.mp (hs.1 n hn)
    simp only [evalArg, hv]
    exact .pure trivial

theorem evalArgs_pur (hargs : ArgsTyped E own.params args) (hs : ScopeOk E locs temps sc) :
    ∀ {as : List ArgExpr} {tys : List ATy}, as.mapM (TyTables.argTy own locs temps) = some tys →
      Pur env (as.mapM (evalArg sc args)) (ArgsTyped E tys)
  | [], _, h => by
    cases h
    exact List.mapM_nil (f := evalArg sc args) ▸ .pure trivial
  | a :: as, _, h => by
    simp only [List.mapM_cons, Option.pure_def, Option.bind_eq_bind, Option.bind_eq_some_iff, Option.some.injEq] at h
    obtain ⟨t, h1, ts, h2, rfl⟩ := h
    rw [List.mapM_cons]
    exact (evalArg_pur hargs hs h1).bind fun _ hv => (evalArgs_pur hargs hs h2).bind fun _ hvs => .pure ⟨hv, hvs⟩

def CallOk (env : Env) (TT : TyTables) (rank : Nat) (call : Nat → List ArgV → M Val) : Prop :=
  ∀ a sg, TT.sigs[a]? = some sg → TT.rankOf a < rank → ∀ ds args, ArgsTyped (hasError ds) sg.params args →
    Tri env (call a args) ds (fun v ds' => HasTy (hasError ds') sg.ret v ∧ (TT.reportsOf a = true → hasError ds'))

theorem runStmts_typed {TT : TyTables} {rank : Nat} {call : Nat → List ArgV → M Val} (hcall : CallOk env TT rank call) :
    ∀ (stmts : List Stmt) {locs : List String} {temps : List (String × VTy)} {sc : Scope} {ds : List Diag},
      TT.checkStmts own rank locs temps stmts = true → ArgsTyped (hasError ds) own.params args →
      ScopeOk (hasError ds) locs temps sc →
      Tri env (runStmts call args sc stmts) ds
        (fun v ds' => HasTy (hasError ds') own.ret v ∧ (TT.stmtsReport stmts = true → hasError ds'))
  | [], _, _, _, _, hc, _, _ => nomatch hc
  | .letLoc n e :: rest, _, _, _, _, hc, hargs, hs => by
    simp only [TyTables.checkStmts, Bool.and_eq_true] at hc
    unfold runStmts
    exact Tri.bind_pur (evalLoc_pur hargs hs hc.1) fun v _ => runStmts_typed hcall rest hc.2 hargs (hs.loc n v)
  | .letCall n a as :: rest, _, _, _, _, hc, hargs, hs => by
    simp only [TyTables.checkStmts] at hc
    split at hc
    · rename_i sg hsg
      simp only [Bool.and_eq_true, decide_eq_true_eq] at hc
      unfold runStmts
      refine Tri.bind_pur (evalArgs_pur hargs hs (eq_of_beq hc.1.1)) fun vs hvs => ?_
      refine Tri.bind (hcall a sg hsg hc.1.2 _ vs hvs) fun r ds1 hext hr => ?_
      have hm := hasError_mono hext
      -- the rest reports whatever the call has reported
      refine (runStmts_typed hcall rest hc.2 (hargs.mono hm) ((hs.mono hm).temp n hr.1 0 0)).mono fun v ds2 hext2 hh => ⟨hh.1, fun hrep => ?_⟩
      simp only [TyTables.stmtsReport, Bool.or_eq_true] at hrep
      exact hrep.elim (fun hrep => hasError_mono hext2 (hr.2 hrep)) hh.2
    · cases hc
  | .letTriple n s e :: rest, _, _, _, _, hc, hargs, hs => by
    simp only [TyTables.checkStmts, Bool.and_eq_true, Option.isSome_iff_exists] at hc
    obtain ⟨⟨⟨hc1, hc2⟩, ⟨t, hc3⟩⟩, hc4⟩ := hc
    unfold runStmts
    refine Tri.bind_pur (evalLoc_pur (e := .var s) hargs hs hc1) fun sv _ => ?_
    refine Tri.bind_pur (evalLoc_pur (e := .var e) hargs hs hc2) fun ev _ => ?_
    obtain ⟨a', v', b', h1, _⟩ := hs.2 n t hc3
    simp only [h1]
    exact runStmts_typed hcall rest hc4 hargs (hs.retriple h1 sv ev)
  | .ret a as :: _, _, _, _, _, hc, hargs, hs => by
    simp only [TyTables.checkStmts] at hc
    split at hc
    · rename_i sg hsg
      simp only [Bool.and_eq_true, decide_eq_true_eq, beq_iff_eq] at hc
      unfold runStmts
      refine Tri.bind_pur (evalArgs_pur hargs hs hc.1.1) fun vs hvs => ?_
      exact hc.1.2 ▸ hcall a sg hsg hc.2 _ vs hvs
    · cases hc

theorem evalAction_typed (TT : TyTables) (hok : TT.actionsOk = true) :
    ∀ (fuel : Nat), CallOk env TT fuel (evalAction TT.defs fuel) := by
  unfold TyTables.actionsOk at hok
  simp only [Bool.and_eq_true, beq_iff_eq] at hok
  obtain ⟨hsize, hall⟩ := hok
  intro fuel
  induction fuel with
  | zero => intro a sg _ hr; exact absurd hr (Nat.not_lt_zero _)
  | succ f ih =>
    intro a sg hsg hr ds args hargs
    have hchk := Checks.all_range hall (hsize ▸ (Array.getElem?_eq_some_iff.mp hsg).1)
    simp only [Bool.and_eq_true, decide_eq_true_eq] at hchk
    obtain ⟨hchk, _⟩ := hchk
    unfold TyTables.checkAction at hchk
    unfold evalAction
    cases hd : TT.defs[a]? with
    | none => simp [hd] at hchk
    | some d =>
      simp only [hd, hsg] at hchk
      cases d with
      | user ar print =>
        dsimp only at hchk ⊢
        simp only [Bool.and_eq_true] at hchk
        obtain ⟨hsig, hrep⟩ := hchk
        cases hl : printToLabel.lookup print with
        | none => simp [hl] at hsig
        | some label =>
          simp only [hl, Option.bind_some] at hsig hrep
          refine (labelSigs_ok label sg (eq_of_beq hsig) ds args hargs).mono fun v ds' _ hh => ⟨hh.1, fun hr' => hh.2 ?_⟩
          simpa [hr'] using hrep
      | prim ar p =>
        simp only [Bool.and_eq_true, Bool.not_eq_true'] at hchk
        exact Tri.of_pur hchk.2 (evalPrim_pur hchk.1 hargs)
      | composite ar body =>
        dsimp only at hchk ⊢
        simp only [Bool.and_eq_true] at hchk
        refine (runStmts_typed (fun b sgb hb hrb => ih b sgb hb (by omega)) body hchk.1 hargs (scopeOk_empty _)).mono
          fun v ds' _ hh => ⟨hh.1, fun hr' => hh.2 ?_⟩
        simpa [hr'] using hchk.2

end Aidl.Props.Typed
