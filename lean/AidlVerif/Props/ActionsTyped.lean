import AidlVerif.Props.Typed
import AidlVerif.Lemmas.Checks

/-!
`labelSigs` (written by hand): the Rust signature of each action modelled in `Model/Actions.lean`. `labelSigs_ok`:
arguments of the declared parameter types in, a value of the declared return type out, never a `shape`, `table` or
`lexical` panic. The namespace is that of `Typed.lean`: `tools/props.py` audits `Aidl.Props.Typed.tri_recovery` and
`Aidl.Props.Typed.tact_38`.
-/

namespace Aidl.Props.Typed
open Aidl Aidl.Actions Aidl.Typing Aidl.Lexer

variable {env : Env} {E : Prop}

theorem pur_nth {tys : List ATy} {args : List ArgV} (h : ArgsTyped E tys args) {i : Nat} {t : VTy}
    (ht : tys[i]? = some (.triple t)) : Pur env (nth args i) (HasTy E t) := by
  obtain ⟨a, ha, hty⟩ := h.get ht
  unfold nth
  rw [ha]
  cases a with
  | triple s v e => exact Pur.pure hty
  | locRef n => exact hty.elim

theorem pur_asLoc {v : Val} (h : HasTy E .loc v) : Pur env (asLoc v) (fun _ => True) := by
  obtain ⟨n, rfl⟩ := (hasTy_loc E v).mp h; exact Pur.pure trivial
theorem pur_asTok {v : Val} (h : HasTy E .tok v) : Pur env (asTok v) (fun _ => True) := by
  obtain ⟨n, rfl⟩ := (hasTy_tok E v).mp h; exact Pur.pure trivial
theorem pur_asStr {v : Val} (h : HasTy E .str v) : Pur env (asStr v) (fun _ => True) := by
  obtain ⟨n, rfl⟩ := (hasTy_str E v).mp h; exact Pur.pure trivial
theorem pur_asTy {v : Val} (h : HasTy E .ty v) : Pur env (asTy v) TyWF := by
  obtain ⟨n, rfl, hn⟩ := (hasTy_ty E v).mp h; exact Pur.pure hn
theorem pur_asPackageV {v : Val} (h : HasTy E .package v) : Pur env (asPackageV v) (fun _ => True) := by
  obtain ⟨n, rfl⟩ := (hasTy_package E v).mp h; exact Pur.pure trivial
theorem pur_asImportV {v : Val} (h : HasTy E .import_ v) : Pur env (asImportV v) (fun _ => True) := by
  obtain ⟨n, rfl⟩ := (hasTy_import_ E v).mp h; exact Pur.pure trivial
theorem pur_asItemV {v : Val} (h : HasTy E .item v) : Pur env (asItemV v) ItemWF := by
  obtain ⟨n, rfl, hn⟩ := (hasTy_item E v).mp h; exact Pur.pure hn
theorem pur_asIfaceV {v : Val} (h : HasTy E .iface v) : Pur env (asIfaceV v) (fun i => ItemWF (.interface i)) := by
  obtain ⟨n, rfl, hn⟩ := (hasTy_iface E v).mp h; exact Pur.pure hn
theorem pur_asParcV {v : Val} (h : HasTy E .parc v) : Pur env (asParcV v) (fun i => ItemWF (.parcelable i)) := by
  obtain ⟨n, rfl, hn⟩ := (hasTy_parc E v).mp h; exact Pur.pure hn
theorem pur_asEnmV {v : Val} (h : HasTy E .enm v) : Pur env (asEnmV v) (fun _ => True) := by
  obtain ⟨n, rfl⟩ := (hasTy_enm E v).mp h; exact Pur.pure trivial
theorem pur_asMethodV {v : Val} (h : HasTy E .method v) :
    Pur env (asMethodV v) (fun m => TyWF m.returnType ∧ ∀ a ∈ m.args, TyWF a.argType) := by
  obtain ⟨n, rfl, hn⟩ := (hasTy_method E v).mp h; exact Pur.pure hn
theorem pur_asConstV {v : Val} (h : HasTy E .const v) : Pur env (asConstV v) (fun c => TyWF c.constType) := by
  obtain ⟨n, rfl, hn⟩ := (hasTy_const E v).mp h; exact Pur.pure hn
theorem pur_asFieldV {v : Val} (h : HasTy E .field v) : Pur env (asFieldV v) (fun f => TyWF f.fieldType) := by
  obtain ⟨n, rfl, hn⟩ := (hasTy_field E v).mp h; exact Pur.pure hn
theorem pur_asEnumElV {v : Val} (h : HasTy E .enumEl v) : Pur env (asEnumElV v) (fun _ => True) := by
  obtain ⟨n, rfl⟩ := (hasTy_enumEl E v).mp h; exact Pur.pure trivial
theorem pur_asDirV {v : Val} (h : HasTy E .dir v) : Pur env (asDirV v) (fun _ => True) := by
  obtain ⟨n, rfl⟩ := (hasTy_dir E v).mp h; exact Pur.pure trivial
theorem pur_asStrPairV {v : Val} (h : HasTy E (.pair .str .str) v) : Pur env (asStrPairV v) (fun _ => True) := by
  obtain ⟨x, y, rfl, hx, hy⟩ := (hasTy_pair E _ _ v).mp h
  obtain ⟨a, rfl⟩ := (hasTy_str E x).mp hx
  obtain ⟨b, rfl⟩ := (hasTy_str E y).mp hy
  exact Pur.pure trivial
theorem pur_asLocTokV {v : Val} (h : HasTy E (.pair .loc .tok) v) : Pur env (asLocTokV v) (fun _ => True) := by
  obtain ⟨x, y, rfl, hx, hy⟩ := (hasTy_pair E _ _ v).mp h
  obtain ⟨a, rfl⟩ := (hasTy_loc E x).mp hx
  obtain ⟨b, rfl⟩ := (hasTy_tok E y).mp hy
  exact Pur.pure trivial
theorem pur_asAnnParamV {v : Val} (h : HasTy E (.pair .str (.opt .str)) v) : Pur env (asAnnParamV v) (fun _ => True) := by
  obtain ⟨x, y, rfl, hx, hy⟩ := (hasTy_pair E _ _ v).mp h
  obtain ⟨a, rfl⟩ := (hasTy_str E x).mp hx
  rcases (hasTy_opt E _ y).mp hy with rfl | ⟨w, rfl, hw⟩
  · exact Pur.pure trivial
  · obtain ⟨b, rfl⟩ := (hasTy_str E w).mp hw
    exact Pur.pure trivial
theorem pur_asArgV {v : Val} (h : HasTy E .arg v) : Pur env (asArgV v) (fun a => TyWF a.argType) := by
  obtain ⟨n, rfl, hn⟩ := (hasTy_arg E v).mp h; exact Pur.pure hn
theorem pur_asIelV {v : Val} (h : HasTy E .iel v) : Pur env (asIelV v) (fun e => ∀ t ∈ e.topTypes, TyWF t) := by
  obtain ⟨n, rfl, hn⟩ := (hasTy_iel E v).mp h; exact Pur.pure hn
theorem pur_asPelV {v : Val} (h : HasTy E .pel v) : Pur env (asPelV v) (fun e => ∀ t ∈ e.topTypes, TyWF t) := by
  obtain ⟨n, rfl, hn⟩ := (hasTy_pel E v).mp h; exact Pur.pure hn

theorem pur_locAt {tys : List ATy} {args : List ArgV} (h : ArgsTyped E tys args) {i : Nat}
    (ht : tys[i]? = some (.triple .loc)) : Pur env (locAt args i) (fun _ => True) := by
  unfold locAt
  exact Pur.bind (pur_nth h ht) (fun v hv => pur_asLoc hv)

theorem pur_tokAt {tys : List ATy} {args : List ArgV} (h : ArgsTyped E tys args) {i : Nat}
    (ht : tys[i]? = some (.triple .tok)) : Pur env (tokAt args i) (fun _ => True) := by
  unfold tokAt
  exact Pur.bind (pur_nth h ht) (fun v hv => pur_asTok hv)

theorem pur_mkPos (n : Nat) : Pur env (mkPos n) (fun _ => True) := by
  intro ds
  have he := PL.mkPos_eq env ds n
  unfold PL.runM at he
  rw [he]
  cases env.lineCol n with
  | none => exact ⟨by simp, by simp⟩
  | some lc => exact ⟨rfl, trivial⟩

theorem pur_mkRange (a b : Nat) : Pur env (mkRange a b) (fun _ => True) := by
  unfold mkRange
  exact Pur.bind (pur_mkPos a) (fun _ _ => Pur.bind (pur_mkPos b) (fun _ _ => Pur.pure trivial))

theorem pur_getJavadoc (n : Nat) : Pur env (Actions.getJavadoc n) (fun _ => True) := by
  unfold Actions.getJavadoc
  refine Pur.bind (P := fun _ => True) (fun _ => ⟨rfl, trivial⟩) (fun e _ => ?_)
  cases Javadoc.getJavadoc e.text n with
  | ok d => exact Pur.pure trivial
  | error m => exact Pur.bad _ _ (by decide) (by decide) (by decide)

theorem pur_asList {t : VTy} {v : Val} (h : HasTy E (.list t) v) : Pur env (asList v) (fun l => ∀ x ∈ l, HasTy E t x) := by
  obtain ⟨l, rfl, hl⟩ := (hasTy_list E t v).mp h; exact Pur.pure hl

theorem pur_asOpt {t : VTy} {v : Val} (h : HasTy E (.opt t) v) : Pur env (asOpt v) (fun o => ∀ w, o = some w → HasTy E t w) := by
  rcases (hasTy_opt E t v).mp h with rfl | ⟨w, rfl, hw⟩
  · exact Pur.pure (by intro w hw; cases hw)
  · exact Pur.pure (by intro w' hw'; cases hw'; exact hw)

theorem pur_asOptNS {t : VTy} {v : Val} (h : HasTy E (.optNS t) v) :
    Pur env (asOpt v) (fun o => (o = none → E) ∧ ∀ w, o = some w → HasTy E t w) := by
  rcases (hasTy_optNS E t v).mp h with ⟨rfl, he⟩ | ⟨w, rfl, hw⟩
  · exact Pur.pure ⟨fun _ => he, by intro w hw; cases hw⟩
  · exact Pur.pure ⟨(by intro h'; cases h'), (by intro w' hw'; cases hw'; exact hw)⟩

theorem pur_asAnns {v : Val} (h : HasTy E (.list .ann) v) : Pur env (asAnns v) (fun _ => True) := by
  unfold asAnns
  refine Pur.bind (pur_asList h) (fun l hl => ?_)
  refine Pur.mono (Pur.mapM (P := fun _ => True) ?_) (fun _ _ => trivial)
  intro a ha
  obtain ⟨x, rfl⟩ := (hasTy_ann E a).mp (hl a ha)
  exact Pur.pure trivial

theorem pur_optTokStr {v : Val} (h : HasTy E (.opt .tok) v) : Pur env (optTokStr v) (fun _ => True) := by
  unfold optTokStr
  refine Pur.bind (pur_asOpt h) (fun o ho => ?_)
  cases o with
  | none => exact Pur.pure trivial
  | some t => exact Pur.map (pur_asTok (ho t rfl)) (fun _ _ => trivial)

theorem pur_optTokStr_d {v : Val} (h : HasTy E (.opt .dtok) v) :
    Pur env (optTokStr v) (fun o => o = none ∨ o = some "in" ∨ o = some "out" ∨ o = some "inout") := by
  unfold optTokStr
  refine Pur.bind (pur_asOpt h) (fun o ho => ?_)
  cases o with
  | none => exact Pur.pure (Or.inl rfl)
  | some t =>
    obtain ⟨x, rfl, hx⟩ := (hasTy_dtok E t).mp (ho t rfl)
    exact Pur.map (P := fun s => s = x) (Pur.pure rfl) (by intro a ha; subst ha; rcases hx with rfl | rfl | rfl <;> simp)

theorem pur_joinToks {v : Val} (h : HasTy E (.list .tok) v) : Pur env (joinToks v) (fun _ => True) := by
  unfold joinToks
  refine Pur.bind (pur_asList h) (fun l hl => ?_)
  refine Pur.bind (Pur.mapM (P := fun _ => True) (fun a ha => pur_asTok (hl a ha))) (fun _ _ => ?_)
  exact Pur.pure trivial

theorem pur_flattenOptsNS {t : VTy} {v : Val} (h : HasTy E (.list (.optNS t)) v) :
    Pur env (flattenOpts v) (fun l => ∀ x ∈ l, HasTy E t x) := by
  unfold flattenOpts
  refine Pur.bind (pur_asList h) (fun l hl => ?_)
  refine Pur.bind (Pur.mapM (P := fun o => ∀ w, o = some w → HasTy E t w)
    (fun a ha => Pur.mono (pur_asOptNS (hl a ha)) (fun _ hh => hh.2))) (fun os hos => ?_)
  refine Pur.pure ?_
  intro x hx
  obtain ⟨o, ho, hox⟩ := List.mem_filterMap.mp hx
  exact hos o ho x hox

theorem pur_simpleType (name : String) (k : TypeKind) (a b : Nat) (hk : leafKind k = true) :
    Pur env (simpleType name k a b) (HasTy E .ty) := by
  unfold simpleType
  exact Pur.bind (pur_mkRange a b) (fun _ _ => Pur.pure (TyWF.leaf _ _ _ _ hk))

theorem pur_fromParseError (e : ParseErr) : Pur env (fromParseError e) (fun d => d.kind = .error) := by
  unfold fromParseError
  cases e <;> exact Pur.bind (pur_mkRange _ _) (fun _ _ => Pur.pure rfl)

theorem pur_fromErrorRecovery (msg : String) (e : ParseErr) : Pur env (fromErrorRecovery msg e) (fun d => d.kind = .error) :=
  (pur_fromParseError e).bind fun _ hd => .pure hd

def PurE {α} (env : Env) (x : M α) (P : α → Prop) : Prop :=
  ∀ ds, match (x.run env).run ds with
    | .ok (a, ds') => (∃ ext, ds' = ds ++ ext) ∧ P a
    | .error p => OkKind p

/-- `HasTy` is relative to `hasError` of the diagnostics, hence a postcondition that sees the final state;
    `PurE env x P` is `Tri` from every state with a postcondition on the value alone -/
def Tri {α} (env : Env) (x : M α) (ds : List Diag) (P : α → List Diag → Prop) : Prop :=
  match (x.run env).run ds with
  | .ok (a, ds') => (∃ ext, ds' = ds ++ ext) ∧ P a ds'
  | .error p => OkKind p

theorem hasError_mono {ds ds' : List Diag} (h : ∃ ext, ds' = ds ++ ext) : hasError ds → hasError ds' := by
  obtain ⟨ext, rfl⟩ := h
  exact fun ⟨d, hd, hk⟩ => ⟨d, List.mem_append_left _ hd, hk⟩

theorem Tri.pure {α} {P : α → List Diag → Prop} {a : α} {ds : List Diag} (h : P a ds) : Tri env (pure a : M α) ds P :=
  ⟨⟨[], (List.append_nil ds).symm⟩, h⟩

theorem Tri.bad {α} {P : α → List Diag → Prop} {ds : List Diag} (k : PanicKind) (m : String) (h1 : k ≠ .shape) (h2 : k ≠ .table)
    (h3 : k ≠ .lexical) : Tri env (bad k m : M α) ds P := ⟨h1, h2, h3⟩

theorem Tri.pushDiag (d : Diag) (ds : List Diag) : Tri env (pushDiag d) ds (fun _ ds' => ds' = ds ++ [d]) := ⟨⟨[d], rfl⟩, rfl⟩

theorem Tri.bind {α β} {P : α → List Diag → Prop} {Q : β → List Diag → Prop} {x : M α} {f : α → M β} {ds : List Diag}
    (hx : Tri env x ds P) (hf : ∀ a ds1, (∃ e, ds1 = ds ++ e) → P a ds1 → Tri env (f a) ds1 Q) : Tri env (x >>= f) ds Q :=
  PL.Wp.bind (PL.Wp.mono hx fun a ds1 h1 => PL.Wp.mono (hf a ds1 h1.1 h1.2) fun _ ds2 h2 => by
    obtain ⟨⟨e1, rfl⟩, _⟩ := h1
    obtain ⟨⟨e2, rfl⟩, hq⟩ := h2
    exact ⟨⟨e1 ++ e2, List.append_assoc ..⟩, hq⟩)

theorem Tri.bind_pur {α β} {P : α → Prop} {Q : β → List Diag → Prop} {x : M α} {f : α → M β} {ds : List Diag}
    (hx : Pur env x P) (hf : ∀ a, P a → Tri env (f a) ds Q) : Tri env (x >>= f) ds Q :=
  PL.Wp.bind (PL.Wp.mono (hx ds) fun a _ h => h.1 ▸ hf a h.2)

theorem Tri.mono {α} {P Q : α → List Diag → Prop} {x : M α} {ds : List Diag} (hx : Tri env x ds P)
    (h : ∀ a ds', (∃ e, ds' = ds ++ e) → P a ds' → Q a ds') : Tri env x ds Q :=
  PL.Wp.mono hx fun _ _ hh => ⟨hh.1, h _ _ hh.1 hh.2⟩

theorem PurE.of_pur {α} {P : α → Prop} {x : M α} (h : Pur env x P) : PurE env x P :=
  fun ds => PL.Wp.mono (h ds) fun _ _ hh => ⟨⟨[], by rw [hh.1, List.append_nil]⟩, hh.2⟩

theorem PurE.bind {α β} {P : α → Prop} {Q : β → Prop} {x : M α} {f : α → M β}
    (hx : PurE env x P) (hf : ∀ a, P a → PurE env (f a) Q) : PurE env (x >>= f) Q :=
  fun ds => Tri.bind (hx ds) fun a ds1 _ ha => hf a ha ds1

theorem PurE.pushDiag (d : Diag) : PurE env (pushDiag d) (fun _ => True) := fun _ => ⟨⟨[d], rfl⟩, trivial⟩

theorem PurE.bad {α} {P : α → Prop} (k : PanicKind) (m : String) (h1 : k ≠ .shape) (h2 : k ≠ .table) (h3 : k ≠ .lexical) :
    PurE env (bad k m : M α) P := PurE.of_pur (Pur.bad k m h1 h2 h3)
theorem purE_bind_pure {α β} {Q : β → Prop} {a : α} {f : α → M β} (h : PurE env (f a) Q) : PurE env (pure a >>= f) Q :=
  (pure_bind a f).symm ▸ h

/-- `b`: whether the computation is claimed to report an Error, which one with a postcondition on the value alone is not -/
theorem Tri.of_purE {b : Bool} {x : M Val} {t : VTy} {ds : List Diag} (hb : b = false) (h : PurE env x (HasTy (hasError ds) t)) :
    Tri env x ds (fun v ds' => HasTy (hasError ds') t v ∧ (b = true → hasError ds')) :=
  Tri.mono (h ds) fun _ _ hext hv => ⟨HasTy.mono (hasError_mono hext) _ _ hv, fun hc => Bool.noConfusion (hb.symm.trans hc)⟩

theorem Tri.of_pur {b : Bool} {x : M Val} {t : VTy} {ds : List Diag} (hb : b = false) (h : Pur env x (HasTy (hasError ds) t)) :
    Tri env x ds (fun v ds' => HasTy (hasError ds') t v ∧ (b = true → hasError ds')) :=
  .of_purE hb (.of_pur h)

theorem tri_recovery (msg : String) (t : VTy) (ds : List Diag) (args : List ArgV)
    (h : ArgsTyped (hasError ds) [.triple .recovery] args) :
    Tri env (recoveryAction msg args) ds (fun v ds' => HasTy (hasError ds') (.optNS t) v ∧ hasError ds') := by
  unfold recoveryAction
  refine Tri.bind_pur (pur_nth h rfl) fun v hv => ?_
  obtain ⟨err, dropped, rfl⟩ := (hasTy_recovery _ v).mp hv
  refine Tri.bind_pur (pur_fromErrorRecovery msg err) fun d hd => Tri.bind (Tri.pushDiag d ds) fun _ ds' _ hds => Tri.pure ?_
  have he : hasError ds' := ⟨d, hds ▸ List.mem_append_right _ (List.mem_singleton.mpr rfl), hd⟩
  exact ⟨he, he⟩

theorem Tri.recovery {b : Bool} {msg : String} {t : VTy} {ds : List Diag} {args : List ArgV}
    (h : ArgsTyped (hasError ds) [.triple .recovery] args) :
    Tri env (recoveryAction msg args) ds (fun v ds' => HasTy (hasError ds') (.optNS t) v ∧ (b = true → hasError ds')) :=
  (tri_recovery msg t ds args h).mono fun _ _ _ hh => ⟨hh.1, fun _ => hh.2⟩

/-- the labels are the cases of `userAction`'s match, i.e. the right column of `printToLabel` (both in `Model/Actions.lean`) -/
def labelSigs : List (Nat × Sig) := [
  (16, { params := [.triple .package, .triple (.list .import_), .triple (.list .import_), .triple (.optNS .item)], ret := (.optNS .aidl) }),
  (17, { params := [.triple .loc, .triple .tok, .triple .loc, .triple .str, .triple .loc, .triple .loc, .triple .tok], ret := .package }),
  (18, { params := [.triple .loc, .triple .tok, .triple .loc, .triple (.list .tok), .triple .tok, .triple .loc, .triple .loc, .triple .tok], ret := .import_ }),
  (19, { params := [.triple (.list .tok), .triple .tok], ret := .str }),
  (20, { params := [.triple (.list .ann), .triple .loc, .triple .tok, .triple .loc, .triple (.pair .str .str), .triple .loc, .triple .tok, .triple .loc], ret := .import_ }),
  (21, { params := [.triple .iface], ret := (.optNS .item) }),
  (22, { params := [.triple .parc], ret := (.optNS .item) }),
  (23, { params := [.triple .enm], ret := (.optNS .item) }),
  (24, { params := [.triple .recovery], ret := (.optNS .item) }),
  (25, { params := [.triple .loc, .triple (.list .ann), .triple .loc, .triple (.opt .tok), .triple .tok, .triple .loc, .triple .tok, .triple .loc, .triple .tok, .triple (.list (.optNS .iel)), .triple .tok, .triple .loc], ret := .iface }),
  (26, { params := [.triple .method], ret := (.optNS .iel) }),
  (27, { params := [.triple .const], ret := (.optNS .iel) }),
  (28, { params := [.triple .recovery], ret := (.optNS .iel) }),
  (29, { params := [.triple .loc, .triple (.list .ann), .triple .loc, .triple .tok, .triple .loc, .triple .tok, .triple .loc, .triple .tok, .triple (.list (.optNS .pel)), .triple .tok, .triple .loc], ret := .parc }),
  (30, { params := [.triple .field], ret := (.optNS .pel) }),
  (31, { params := [.triple .const], ret := (.optNS .pel) }),
  (32, { params := [.triple .recovery], ret := (.optNS .pel) }),
  (33, { params := [.triple .loc, .triple (.list .ann), .triple .loc, .triple .tok, .triple .loc, .triple .tok, .triple .loc, .triple .tok, .triple (.list (.optNS .enumEl)), .triple .tok, .triple .loc], ret := .enm }),
  (34, { params := [.triple .enumEl], ret := (.optNS .enumEl) }),
  (35, { params := [.triple .recovery], ret := (.optNS .enumEl) }),
  (36, { params := [.triple .loc, .triple (.list .ann), .triple .loc, .triple .loc, .triple (.opt .tok), .triple .loc, .triple .ty, .triple .loc, .triple .tok, .triple .loc, .triple .tok, .triple (.list .arg), .triple .tok, .triple .loc, .triple (.opt (.pair .loc .tok)), .triple .loc, .triple .loc, .triple .tok], ret := .method }),
  (37, { params := [.triple .loc, .triple .dir, .triple (.list .ann), .triple .ty, .triple .loc, .triple (.opt .tok), .triple .loc], ret := .arg }),
  (38, { params := [.triple .loc, .triple (.opt .dtok), .triple .loc], ret := .dir }),
  (39, { params := [.triple .loc, .triple (.list .ann), .triple .loc, .triple .tok, .triple .ty, .triple .loc, .triple .tok, .triple .loc, .triple .tok, .triple .str, .triple .loc, .triple .tok], ret := .const }),
  (40, { params := [.triple .loc, .triple (.list .ann), .triple .loc, .triple .ty, .triple .loc, .triple .tok, .triple .loc, .triple (.opt .str), .triple .loc, .triple .tok], ret := .field }),
  (41, { params := [.triple .loc, .triple (.list .ann), .triple .loc, .triple .loc, .triple .tok, .triple .loc, .triple (.opt .tok), .triple .loc], ret := .enumEl }),
  (50, { params := [.triple .loc, .triple .tok, .triple .loc], ret := .ty }),
  (51, { params := [.triple .loc, .triple .tok, .triple .loc], ret := .ty }),
  (52, { params := [.triple .loc, .triple .tok, .triple .loc], ret := .ty }),
  (53, { params := [.triple .loc, .triple .tok, .triple .loc], ret := .ty }),
  (54, { params := [.triple .loc, .triple .loc, .triple .ty, .triple .loc, .triple .tok, .triple .tok, .triple .loc], ret := .ty }),
  (55, { params := [.triple .loc, .triple .loc, .triple .tok, .triple .loc, .triple .tok, .triple .ty, .triple .tok, .triple .loc], ret := .ty }),
  (56, { params := [.triple .loc, .triple .tok, .triple .loc], ret := .ty }),
  (57, { params := [.triple .loc, .triple .loc, .triple .tok, .triple .loc, .triple .tok, .triple .ty, .triple .tok, .triple .ty, .triple .tok, .triple .loc], ret := .ty }),
  (58, { params := [.triple .loc, .triple .tok, .triple .loc], ret := .ty }),
  (59, { params := [.triple .loc, .triple .str, .triple .loc], ret := .ty }),
  (60, { params := [.triple (.list (.optNS .ann))], ret := (.list .ann) }),
  (61, { params := [.triple .tok, .triple (.opt (.list (.pair .str (.opt .str))))], ret := (.optNS .ann) }),
  (62, { params := [.triple .tok, .triple (.opt .tok)], ret := (.pair .str (.opt .str)) }),
  (63, { params := [.triple .tok], ret := .str }),
  (64, { params := [.triple .tok], ret := .str }),
  (65, { params := [.triple .tok], ret := .str }),
  (66, { params := [.triple .tok], ret := .str }),
  (67, { params := [.triple .tok, .triple .tok], ret := .str }),
  (68, { params := [.triple .tok, .triple (.list .str), .triple (.list .str), .triple (.opt .tok), .triple .tok], ret := .str }),
  (69, { params := [.triple .tok, .triple .tok, .triple .tok], ret := .str }),
  (100, { params := [.triple (.list .tok), .triple .tok], ret := (.pair .str .str) })]

def recoveryLabels : List Nat := [24, 28, 32, 35]

def LabelOk (env : Env) (L : Nat) (sg : Sig) : Prop :=
  ∀ (ds : List Diag) (args : List ArgV), ArgsTyped (hasError ds) sg.params args →
    Tri env (userAction L args) ds (fun v ds' => HasTy (hasError ds') sg.ret v ∧ (recoveryLabels.contains L = true → hasError ds'))

/-- `f (← nth args i)`, as it stands in front of the rest of an action -/
theorem Pur.at {α β} {P : α → Prop} {Q : β → Prop} {tys : List ATy} {args : List ArgV} {f : Val → M α} {g : α → M β}
    (h : ArgsTyped E tys args) {i : Nat} {t : VTy} (hi : tys[i]? = some (.triple t))
    (hf : ∀ {v}, HasTy E t v → Pur env (f v) P) (k : ∀ a, P a → Pur env (g a) Q) :
    Pur env (nth args i >>= fun v => f v >>= g) Q :=
  (pur_nth h hi).bind fun _ hv => (hf hv).bind k

theorem PurE.at {α β} {P : α → Prop} {Q : β → Prop} {tys : List ATy} {args : List ArgV} {f : Val → M α} {g : α → M β}
    (h : ArgsTyped E tys args) {i : Nat} {t : VTy} (hi : tys[i]? = some (.triple t))
    (hf : ∀ {v}, HasTy E t v → Pur env (f v) P) (k : ∀ a, P a → PurE env (g a) Q) :
    PurE env (nth args i >>= fun v => f v >>= g) Q :=
  (PurE.of_pur (pur_nth h hi)).bind fun _ hv => (PurE.of_pur (hf hv)).bind k

/-- `mkRange (← locAt args i) (← locAt args j)`, as it stands in front of the rest of an action -/
theorem Pur.rangeAt {β} {Q : β → Prop} {tys : List ATy} {args : List ArgV} {f : Range → M β} (h : ArgsTyped E tys args)
    {i j : Nat} (hi : tys[i]? = some (.triple .loc)) (hj : tys[j]? = some (.triple .loc)) (k : ∀ r, Pur env (f r) Q) :
    Pur env (locAt args i >>= fun a => locAt args j >>= fun b => mkRange a b >>= f) Q :=
  (pur_locAt h hi).bind fun _ _ => (pur_locAt h hj).bind fun _ _ => (pur_mkRange _ _).bind fun r _ => k r

/-- `Direction`: a DIRECTION token is `in`, `out` or `inout`, so the `unreachable!()` is not reached -/
theorem tact_38 (env : Env) (E : Prop) (args : List ArgV)
    (h : ArgsTyped E [.triple .loc, .triple (.opt .dtok), .triple .loc] args) :
    Pur env (userAction 38 args) (HasTy E .dir) := by
  unfold userAction
  simp only []
  refine Pur.bind (pur_locAt h rfl) (fun p1 _ => ?_)
  refine Pur.bind (pur_locAt h rfl) (fun p2 _ => ?_)
  refine Pur.bind (pur_nth h rfl) (fun v hv => ?_)
  refine Pur.bind (pur_optTokStr_d hv) (fun o ho => ?_)
  rcases ho with rfl | rfl | rfl | rfl
  · exact Pur.pure trivial
  · exact Pur.bind (pur_mkRange _ _) (fun _ _ => Pur.pure trivial)
  · exact Pur.bind (pur_mkRange _ _) (fun _ _ => Pur.pure trivial)
  · exact Pur.bind (pur_mkRange _ _) (fun _ _ => Pur.pure trivial)

/-! One case per alternative of `userAction`, in its order; each case names, bind by bind, the
specification of the primitive the action calls next. All but `Method` (which may report a bad
transact code) and the four error-recovery actions leave the diagnostics alone. -/

theorem labelSigs_ok (L : Nat) (sg : Sig) (h : labelSigs.lookup L = some sg) : LabelOk env L sg := by
  intro ds args ha
  unfold userAction
  split
  · -- 16 OptAidl
    cases h
    refine .of_pur rfl ?_
    refine Pur.at ha rfl pur_asPackageV fun p _ => ?_
    refine Pur.at ha rfl pur_asList fun l hl => ?_
    refine Pur.bind (Pur.mapM (P := fun _ => True) fun a ha => pur_asImportV (hl a ha)) fun imps _ => ?_
    refine Pur.at ha rfl pur_asList fun l hl => ?_
    refine Pur.bind (Pur.mapM (P := fun _ => True) fun a ha => pur_asImportV (hl a ha)) fun decls _ => ?_
    refine Pur.at ha rfl pur_asOptNS fun o ho => ?_
    cases o with
    | none => exact .pure (ho.1 rfl)
    | some w => exact Pur.bind (pur_asItemV (ho.2 w rfl)) fun it hit => .pure hit
  · -- 17 Package
    cases h
    refine .of_pur rfl ?_
    refine Pur.at ha rfl pur_asStr fun name _ => ?_
    exact Pur.rangeAt ha rfl rfl fun _ => Pur.rangeAt ha rfl rfl fun _ => .pure trivial
  · -- 18 Import
    cases h
    refine .of_pur rfl ?_
    refine Pur.at ha rfl pur_joinToks fun _ _ => Pur.bind (pur_tokAt ha rfl) fun _ _ => ?_
    exact Pur.rangeAt ha rfl rfl fun _ => Pur.rangeAt ha rfl rfl fun _ => .pure trivial
  · -- 19 QualifiedName
    cases h
    refine .of_pur rfl ?_
    refine Pur.at ha rfl pur_asList fun l hl => Pur.bind (pur_tokAt ha rfl) fun _ _ => ?_
    split
    · exact .pure trivial
    · exact Pur.bind (pur_joinToks (v := .list l) hl) fun _ _ => .pure trivial
  · -- 20 DeclaredParcelable
    cases h
    refine .of_pur rfl ?_
    refine Pur.at ha rfl pur_asStrPairV fun _ _ => ?_
    exact Pur.rangeAt ha rfl rfl fun _ => Pur.rangeAt ha rfl rfl fun _ => .pure trivial
  · -- 100 DottedName
    cases h
    refine .of_pur rfl ?_
    refine Pur.at ha rfl pur_joinToks fun _ _ => Pur.bind (pur_tokAt ha rfl) fun _ _ => ?_
    exact .pure ⟨trivial, trivial⟩
  · -- 21 OptItem: interface
    cases h
    refine .of_pur rfl ?_
    exact Pur.at ha rfl pur_asIfaceV fun _ hx => .pure hx
  · -- 22 OptItem: parcelable
    cases h
    refine .of_pur rfl ?_
    exact Pur.at ha rfl pur_asParcV fun _ hx => .pure hx
  · -- 23 OptItem: enum
    cases h
    refine .of_pur rfl ?_
    exact Pur.at ha rfl pur_asEnmV fun _ hx => .pure trivial
  · -- 24 OptItem: error
    cases h
    exact Tri.recovery ha
  · -- 25 Interface
    cases h
    refine .of_pur rfl ?_
    refine Pur.at ha rfl pur_flattenOptsNS fun l hl => ?_
    refine Pur.bind (Pur.mapM (P := fun e => ∀ t ∈ e.topTypes, TyWF t) fun a ha => pur_asIelV (hl a ha)) fun els hels => ?_
    refine Pur.at ha rfl pur_asOpt fun _ _ => Pur.bind (pur_tokAt ha rfl) fun _ _ => ?_
    refine Pur.at ha rfl pur_asAnns fun _ _ => ?_
    refine Pur.bind (pur_locAt ha rfl) fun _ _ => Pur.bind (pur_getJavadoc _) fun _ _ => ?_
    exact Pur.rangeAt ha rfl rfl fun _ => Pur.rangeAt ha rfl rfl fun _ => .pure hels
  · -- 26 InterfaceElement: method
    cases h
    refine .of_pur rfl ?_
    exact Pur.at ha rfl pur_asMethodV fun _ hx => .pure (List.forall_mem_cons.mpr ⟨hx.1, List.forall_mem_map.mpr hx.2⟩)
  · -- 27 InterfaceElement: const
    cases h
    refine .of_pur rfl ?_
    exact Pur.at ha rfl pur_asConstV fun _ hx => .pure (List.forall_mem_singleton.mpr hx)
  · -- 28 InterfaceElement: error
    cases h
    exact Tri.recovery ha
  · -- 29 Parcelable
    cases h
    refine .of_pur rfl ?_
    refine Pur.at ha rfl pur_flattenOptsNS fun l hl => ?_
    refine Pur.bind (Pur.mapM (P := fun e => ∀ t ∈ e.topTypes, TyWF t) fun a ha => pur_asPelV (hl a ha)) fun els hels => ?_
    refine Pur.bind (pur_tokAt ha rfl) fun _ _ => Pur.at ha rfl pur_asAnns fun _ _ => ?_
    refine Pur.bind (pur_locAt ha rfl) fun _ _ => Pur.bind (pur_getJavadoc _) fun _ _ => ?_
    exact Pur.rangeAt ha rfl rfl fun _ => Pur.rangeAt ha rfl rfl fun _ => .pure hels
  · -- 30 ParcelableElement: field
    cases h
    refine .of_pur rfl ?_
    exact Pur.at ha rfl pur_asFieldV fun _ hx => .pure (List.forall_mem_singleton.mpr hx)
  · -- 31 ParcelableElement: const
    cases h
    refine .of_pur rfl ?_
    exact Pur.at ha rfl pur_asConstV fun _ hx => .pure (List.forall_mem_singleton.mpr hx)
  · -- 32 ParcelableElement: error
    cases h
    exact Tri.recovery ha
  · -- 33 Enum
    cases h
    refine .of_pur rfl ?_
    refine Pur.at ha rfl pur_flattenOptsNS fun l hl => ?_
    refine Pur.bind (Pur.mapM (P := fun _ => True) fun a ha => pur_asEnumElV (hl a ha)) fun els _ => ?_
    refine Pur.bind (pur_tokAt ha rfl) fun _ _ => Pur.at ha rfl pur_asAnns fun _ _ => ?_
    refine Pur.bind (pur_locAt ha rfl) fun _ _ => Pur.bind (pur_getJavadoc _) fun _ _ => ?_
    exact Pur.rangeAt ha rfl rfl fun _ => Pur.rangeAt ha rfl rfl fun _ => .pure trivial
  · -- 34 OptEnumElement
    cases h
    refine .of_pur rfl ?_
    exact Pur.bind (pur_nth ha rfl) fun v hv => .pure hv
  · -- 35 OptEnumElement: error
    cases h
    exact Tri.recovery ha
  · -- 36 Method
    cases h
    refine .of_purE rfl ?_
    refine PurE.at ha rfl pur_asList fun l hl => ?_
    refine PurE.bind (.of_pur (Pur.mapM (P := fun a => TyWF a.argType) fun a ha => pur_asArgV (hl a ha))) fun margs hmargs => ?_
    refine PurE.bind (.of_pur (pur_locAt ha rfl)) fun vp2 _ => ?_
    refine PurE.at ha rfl pur_asOpt fun o ho => ?_
    extract_lets rest
    have hrest : ∀ code, PurE env (rest code) (HasTy (hasError ds) .method) := fun code => .of_pur <| by
      refine Pur.at ha rfl pur_asOpt fun _ _ => Pur.bind (pur_tokAt ha rfl) fun _ _ => ?_
      refine Pur.at ha rfl pur_asTy fun rt hrt => ?_
      refine Pur.at ha rfl pur_asAnns fun _ _ => ?_
      refine Pur.bind (pur_locAt ha rfl) fun _ _ => Pur.bind (pur_getJavadoc _) fun _ _ => ?_
      refine Pur.rangeAt ha rfl rfl fun _ => Pur.rangeAt ha rfl rfl fun _ => ?_
      refine Pur.bind (pur_locAt ha rfl) fun _ _ => Pur.bind (pur_mkRange _ _) fun _ _ => ?_
      exact Pur.rangeAt ha rfl rfl fun _ => .pure ⟨hrt, hmargs⟩
    cases o with
    | none => exact purE_bind_pure (hrest _)
    | some c =>
      refine PurE.bind (.of_pur (pur_asLocTokV (ho c rfl))) fun ls _ => ?_
      split
      · exact purE_bind_pure (hrest _)
      · refine PurE.bind (.of_pur (pur_mkRange _ _)) fun _ _ => ?_
        exact PurE.bind (PurE.pushDiag _) fun _ _ => purE_bind_pure (hrest _)
  · -- 37 Arg
    cases h
    refine .of_pur rfl ?_
    refine Pur.at ha rfl pur_asDirV fun _ _ => ?_
    refine Pur.bind (pur_locAt ha rfl) fun _ _ => Pur.bind (pur_locAt ha rfl) fun _ _ => ?_
    refine Pur.at ha rfl pur_optTokStr fun _ _ => ?_
    refine Pur.at ha rfl pur_asTy fun t ht => ?_
    refine Pur.bind (pur_locAt ha rfl) fun _ _ => Pur.bind (pur_mkRange _ _) fun _ _ => Pur.bind (pur_mkRange _ _) fun _ _ => ?_
    refine Pur.at ha rfl pur_asAnns fun _ _ => Pur.bind (pur_getJavadoc _) fun _ _ => ?_
    exact .pure ht
  · -- 38 Direction
    cases h
    exact .of_pur rfl (tact_38 env _ args ha)
  · -- 39 Const
    cases h
    refine .of_pur rfl ?_
    refine Pur.bind (pur_tokAt ha rfl) fun _ _ => Pur.at ha rfl pur_asTy fun t ht => ?_
    refine Pur.at ha rfl pur_asStr fun _ _ => ?_
    refine Pur.at ha rfl pur_asAnns fun _ _ => ?_
    refine Pur.bind (pur_locAt ha rfl) fun _ _ => Pur.bind (pur_getJavadoc _) fun _ _ => ?_
    exact Pur.rangeAt ha rfl rfl fun _ => Pur.rangeAt ha rfl rfl fun _ => .pure ht
  · -- 40 Field
    cases h
    refine .of_pur rfl ?_
    refine Pur.at ha rfl pur_asOpt fun o ho => ?_
    extract_lets rest
    have hrest : ∀ value, Pur env (rest value) (HasTy (hasError ds) .field) := fun value => by
      refine Pur.bind (pur_tokAt ha rfl) fun _ _ => Pur.at ha rfl pur_asTy fun t ht => ?_
      refine Pur.at ha rfl pur_asAnns fun _ _ => ?_
      refine Pur.bind (pur_locAt ha rfl) fun _ _ => Pur.bind (pur_getJavadoc _) fun _ _ => ?_
      exact Pur.rangeAt ha rfl rfl fun _ => Pur.rangeAt ha rfl rfl fun _ => .pure ht
    cases o with
    | none => exact pur_bind_pure (hrest _)
    | some s => exact Pur.bind (Pur.map (Q := fun _ => True) (pur_asStr (ho s rfl)) fun _ _ => trivial) fun _ _ => hrest _
  · -- 41 EnumElement
    cases h
    refine .of_pur rfl ?_
    refine Pur.bind (pur_tokAt ha rfl) fun _ _ => Pur.at ha rfl pur_optTokStr fun _ _ => ?_
    refine Pur.bind (pur_locAt ha rfl) fun _ _ => Pur.bind (pur_getJavadoc _) fun _ _ => ?_
    exact Pur.rangeAt ha rfl rfl fun _ => Pur.rangeAt ha rfl rfl fun _ => .pure trivial
  · -- 50 void
    cases h
    refine .of_pur rfl ?_
    exact Pur.bind (pur_tokAt ha rfl) fun _ _ => Pur.bind (pur_locAt ha rfl) fun _ _ => Pur.bind (pur_locAt ha rfl) fun _ _ => pur_simpleType _ _ _ _ rfl
  · -- 51 primitive
    cases h
    refine .of_pur rfl ?_
    exact Pur.bind (pur_tokAt ha rfl) fun _ _ => Pur.bind (pur_locAt ha rfl) fun _ _ => Pur.bind (pur_locAt ha rfl) fun _ _ => pur_simpleType _ _ _ _ rfl
  · -- 52 String
    cases h
    refine .of_pur rfl ?_
    exact Pur.bind (pur_tokAt ha rfl) fun _ _ => Pur.bind (pur_locAt ha rfl) fun _ _ => Pur.bind (pur_locAt ha rfl) fun _ _ => pur_simpleType _ _ _ _ rfl
  · -- 53 CharSequence
    cases h
    refine .of_pur rfl ?_
    exact Pur.bind (pur_tokAt ha rfl) fun _ _ => Pur.bind (pur_locAt ha rfl) fun _ _ => Pur.bind (pur_locAt ha rfl) fun _ _ => pur_simpleType _ _ _ _ rfl
  · -- 54 TypeArray
    cases h
    refine .of_pur rfl ?_
    refine Pur.at ha rfl pur_asTy fun t ht => ?_
    exact Pur.rangeAt ha rfl rfl fun _ => Pur.rangeAt ha rfl rfl fun _ => .pure (TyWF.array _ _ _ _ ht)
  · -- 55 TypeList
    cases h
    refine .of_pur rfl ?_
    refine Pur.at ha rfl pur_asTy fun t ht => ?_
    exact Pur.rangeAt ha rfl rfl fun _ => Pur.rangeAt ha rfl rfl fun _ => .pure (TyWF.list1 _ _ _ _ ht)
  · -- 56 raw List
    cases h
    refine .of_pur rfl ?_
    exact Pur.rangeAt ha rfl rfl fun _ => .pure (TyWF.leaf _ _ _ _ rfl)
  · -- 57 TypeMap
    cases h
    refine .of_pur rfl ?_
    refine Pur.at ha rfl pur_asTy fun k hk => ?_
    refine Pur.at ha rfl pur_asTy fun t ht => ?_
    exact Pur.rangeAt ha rfl rfl fun _ => Pur.rangeAt ha rfl rfl fun _ => .pure (TyWF.map2 _ _ _ _ _ hk ht)
  · -- 58 raw Map
    cases h
    refine .of_pur rfl ?_
    exact Pur.rangeAt ha rfl rfl fun _ => .pure (TyWF.leaf _ _ _ _ rfl)
  · -- 59 TypeCustom
    cases h
    refine .of_pur rfl ?_
    refine Pur.rangeAt ha rfl rfl fun _ => ?_
    exact Pur.at ha rfl pur_asStr fun _ _ => .pure (TyWF.leaf _ _ _ _ rfl)
  · -- 60 AnnotationList
    cases h
    refine .of_pur rfl ?_
    exact Pur.at ha rfl pur_flattenOptsNS fun l hl => .pure hl
  · -- 61 OptAnnotation
    cases h
    refine .of_pur rfl ?_
    refine Pur.at ha rfl pur_asOpt fun o ho => ?_
    extract_lets rest
    have hrest : ∀ ps, Pur env (rest ps) (HasTy (hasError ds) (.optNS .ann)) := fun ps =>
      Pur.bind (pur_tokAt ha rfl) fun _ _ => .pure trivial
    cases o with
    | none => exact pur_bind_pure (hrest _)
    | some l =>
      refine Pur.bind (pur_asList (ho l rfl)) fun l' hl' => ?_
      exact Pur.bind (Pur.mapM (P := fun _ => True) fun a ha => pur_asAnnParamV (hl' a ha)) fun _ _ => hrest _
  · -- 62 AnnotationParam
    cases h
    refine .of_pur rfl ?_
    refine Pur.at ha rfl pur_optTokStr fun o _ => ?_
    extract_lets rest
    have hrest : ∀ w, HasTy (hasError ds) (.opt .str) w → Pur env (rest w) (HasTy (hasError ds) (.pair .str (.opt .str))) := fun w hw =>
      Pur.bind (pur_tokAt ha rfl) fun _ _ => .pure ⟨trivial, hw⟩
    cases o with
    | none => exact pur_bind_pure (hrest _ trivial)
    | some s => exact pur_bind_pure (hrest _ trivial)
  · -- 63 Value
    cases h
    refine .of_pur rfl ?_
    exact Pur.bind (pur_tokAt ha rfl) fun _ _ => .pure trivial
  · -- 64 Value
    cases h
    refine .of_pur rfl ?_
    exact Pur.bind (pur_tokAt ha rfl) fun _ _ => .pure trivial
  · -- 65 Value
    cases h
    refine .of_pur rfl ?_
    exact Pur.bind (pur_tokAt ha rfl) fun _ _ => .pure trivial
  · -- 66 Value
    cases h
    refine .of_pur rfl ?_
    exact Pur.bind (pur_tokAt ha rfl) fun _ _ => .pure trivial
  · -- 67
    cases h
    refine .of_pur rfl ?_
    exact .pure trivial
  · -- 68
    cases h
    refine .of_pur rfl ?_
    exact .pure trivial
  · -- 69
    cases h
    refine .of_pur rfl ?_
    exact Pur.bind (pur_tokAt ha rfl) fun _ _ => Pur.bind (pur_tokAt ha rfl) fun _ _ => .pure trivial
  · -- no other label has a signature
    refine absurd (List.mem_map_of_mem (f := (·.1)) (Checks.lookup_mem h)) ?_
    simp only [labelSigs, List.map_cons, List.map_nil, List.mem_cons, List.not_mem_nil, or_false, not_or]
    and_intros <;> assumption

end Aidl.Props.Typed
