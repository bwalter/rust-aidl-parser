import AidlVerif.Model.Validation
import AidlVerif.Props.LexerBounds

/-!
C04 — every reported source range is exact, well-formed and properly nested  (partial).

Proved about the model:
* for every text, every position stored in a returned tree or diagnostic is a character boundary of the text with
  the lookup's line and column, and a syntax error lies on character boundaries (`ParseTotal`);
* every range built by `Range::new` has both offsets accepted by the lookup (character boundaries inside the file)
  and carries the lookup's line / column; a syntax diagnostic spans exactly the offending token, the empty range at
  an unlexable character, or the empty range right after the last token read; recovered errors likewise (`ParseLevel`);
* here: a token returned by the lexer does not end before it starts, and the diagnostic for a missing direction is
  the empty range at the start of the argument type's name.

NOT proved: exactness of name / full ranges per construct for arbitrary runs (it depends on the
location plumbing of the composite actions, which is regenerated data); it is covered by the exact
correspondence and by the generator's token table (`spanOk`) on every case.
-/

namespace Aidl.Props.C04
open Aidl Aidl.Lexer

theorem token_bounds (table : LexTable) (fuel : Nat) (s : List Char) (p : Nat) (t : Token) (rest : List Char)
    (h : Lexer.next table fuel s p = .token t rest) : t.start ≤ t.stop := by
  obtain ⟨_, tok, _, _, hstop, _⟩ : LexerBounds.NextOk table s p (.token t rest) := h ▸ LexerBounds.next_ok table fuel s p
  omega

theorem missing_direction_range (a : Arg) (h : a.direction = .unspecified) :
    argDirectionRange a = { start := a.argType.sym.start, stop := a.argType.sym.start } := by
  unfold argDirectionRange; rw [h]

end Aidl.Props.C04
