import AidlVerif.Props.JavadocTotal

/-!
`Matches`: the textbook semantics of regular expressions. The continuation-passing matcher `m` is sound for it for every
`fuel`, stars included: when it succeeds it has consumed a word of the language and handed the rest to its continuation.
It is complete once `fuel` reaches the length of the word.
-/

namespace Aidl.Props.RegexSound
open Aidl.Regex Aidl.Javadoc Aidl.Props.JavadocTotal

inductive Matches : Re → List Char → Prop
  | eps : Matches .eps []
  | cls (rs : List (Nat × Nat)) (c : Char) : inCls rs c = true → Matches (.cls rs) [c]
  | seq (a b : Re) (u v : List Char) : Matches a u → Matches b v → Matches (.seq a b) (u ++ v)
  | altL (a b : Re) (u : List Char) : Matches a u → Matches (.alt a b) u
  | altR (a b : Re) (u : List Char) : Matches b u → Matches (.alt a b) u
  | starNil (a : Re) : Matches (.star a) []
  | starCons (a : Re) (u v : List Char) : Matches a u → Matches (.star a) v → Matches (.star a) (u ++ v)

theorem Matches.seq' {a b : Re} {u v w : List Char} (hu : Matches a u) (hv : Matches b v) (h : w = u ++ v) :
    Matches (.seq a b) w :=
  h ▸ .seq a b u v hu hv

theorem Matches.seq_inv {a b : Re} {w : List Char} (h : Matches (.seq a b) w) :
    ∃ u v, w = u ++ v ∧ Matches a u ∧ Matches b v := by
  cases h with
  | seq _ _ u v hu hv => exact ⟨u, v, rfl, hu, hv⟩

theorem Matches.cls_inv {rs : List (Nat × Nat)} {w : List Char} (h : Matches (.cls rs) w) : ∃ c, w = [c] ∧ inCls rs c = true := by
  cases h with
  | cls _ c hc => exact ⟨c, rfl, hc⟩

def SoundFor (r : Re) (f : List Char → Nat → K → Option Nat) : Prop :=
  ∀ (s : List Char) (p : Nat) (k : K) (e : Nat), f s p k = some e →
    ∃ w s', s = w ++ s' ∧ Matches r w ∧ k s' (p + utf8Len w) = some e

theorem starLoop_sound (a : Re) (body : List Char → Nat → K → Option Nat) (hb : SoundFor a body) (k : K) :
    ∀ (n : Nat) (s : List Char) (p e : Nat), starLoop body k n s p = some e →
      ∃ w s', s = w ++ s' ∧ Matches (.star a) w ∧ k s' (p + utf8Len w) = some e := by
  intro n
  induction n with
  | zero =>
    intro s p e h
    simp only [starLoop] at h
    exact ⟨[], s, rfl, .starNil a, by simpa [utf8Len_nil] using h⟩
  | succ n ih =>
    intro s p e h
    simp only [starLoop] at h
    split at h
    · rename_i r hr
      cases h
      obtain ⟨u, s1, hs1, hu, hk⟩ := hb s p _ _ hr
      split at hk
      · obtain ⟨v, s2, hs2, hv, hk2⟩ := ih s1 _ _ hk
        refine ⟨u ++ v, s2, by rw [hs1, hs2]; simp, .starCons a u v hu hv, ?_⟩
        rw [utf8Len_append, ← Nat.add_assoc]; exact hk2
      · cases hk
    · exact ⟨[], s, rfl, .starNil a, by simpa [utf8Len_nil] using h⟩

theorem m_sound (r : Re) : ∀ (fuel : Nat), SoundFor r (m r fuel) := by
  induction r with
  | eps =>
    intro fuel s p k e h
    exact ⟨[], s, rfl, .eps, by simpa [m, utf8Len_nil] using h⟩
  | cls rs =>
    intro fuel s p k e h
    cases s with
    | nil => simp [m] at h
    | cons c s' =>
      simp only [m] at h
      split at h
      · rename_i hin
        refine ⟨[c], s', rfl, .cls rs c hin, ?_⟩
        rw [utf8Len_cons, utf8Len_nil]; simpa using h
      · cases h
  | seq x y ihx ihy =>
    intro fuel s p k e h
    simp only [m] at h
    obtain ⟨u, s1, hs1, hu, h1⟩ := ihx fuel s p _ e h
    obtain ⟨v, s2, hs2, hv, h2⟩ := ihy fuel s1 _ k e h1
    refine ⟨u ++ v, s2, by rw [hs1, hs2]; simp, .seq x y u v hu hv, ?_⟩
    rw [utf8Len_append, ← Nat.add_assoc]; exact h2
  | alt x y ihx ihy =>
    intro fuel s p k e h
    simp only [m] at h
    split at h
    · rename_i r' ha
      cases h
      obtain ⟨w, s', hs', hw, hk⟩ := ihx fuel s p k _ ha
      exact ⟨w, s', hs', .altL x y w hw, hk⟩
    · obtain ⟨w, s', hs', hw, hk⟩ := ihy fuel s p k e h
      exact ⟨w, s', hs', .altR x y w hw, hk⟩
  | star a ih =>
    intro fuel s p k e h
    simp only [m] at h
    exact starLoop_sound a (m a fuel) (ih fuel) k fuel s p e h

theorem matchAt_sound (r : Re) (fuel : Nat) (s : List Char) (p e : Nat) (h : matchAt r fuel s p = some e) :
    ∃ w s', s = w ++ s' ∧ Matches r w ∧ e = p + utf8Len w := by
  unfold matchAt at h
  obtain ⟨w, s', hs', hw, hk⟩ := m_sound r fuel s p _ e h
  exact ⟨w, s', hs', hw, by simpa using hk.symm⟩

theorem findFrom_sound (r : Re) (fuel : Nat) : ∀ (s : List Char) (p a b : Nat), findFrom r fuel s p = some (a, b) →
    ∃ pre w post, s = pre ++ w ++ post ∧ Matches r w ∧ a = p + utf8Len pre ∧ b = a + utf8Len w := by
  intro s
  induction s with
  | nil =>
    intro p a b h
    simp only [findFrom, Option.map_eq_some_iff, Prod.mk.injEq] at h
    obtain ⟨e, he, rfl, rfl⟩ := h
    obtain ⟨w, s', hs', hw, he⟩ := matchAt_sound r fuel [] p e he
    exact ⟨[], w, s', by simpa using hs', hw, by simp [utf8Len_nil], he⟩
  | cons c cs ih =>
    intro p a b h
    simp only [findFrom] at h
    split at h
    · rename_i e he
      simp only [Option.some.injEq, Prod.mk.injEq] at h
      obtain ⟨rfl, rfl⟩ := h
      obtain ⟨w, s', hs', hw, he⟩ := matchAt_sound r fuel (c :: cs) p e he
      exact ⟨[], w, s', by simpa using hs', hw, by simp [utf8Len_nil], he⟩
    · obtain ⟨pre, w, post, hs, hw, ha, hb⟩ := ih _ a b h
      refine ⟨c :: pre, w, post, by rw [hs]; simp, hw, ?_, hb⟩
      rw [utf8Len_cons]; omega

def clsAll (P : Char → Prop) : Re → Prop
  | .eps => True
  | .cls rs => ∀ c, inCls rs c = true → P c
  | .seq a b => clsAll P a ∧ clsAll P b
  | .alt a b => clsAll P a ∧ clsAll P b
  | .star a => clsAll P a

theorem Matches.all_chars (P : Char → Prop) {r : Re} {w : List Char} (h : Matches r w) :
    clsAll P r → ∀ c ∈ w, P c := by
  induction h with
  | eps => intro _ c hc; cases hc
  | cls rs c hin =>
    intro hP d hd
    simp only [List.mem_cons, List.not_mem_nil, or_false] at hd
    subst hd
    exact hP d hin
  | seq a b u v _ _ iha ihb =>
    intro hP c hc
    rcases List.mem_append.mp hc with h | h
    · exact iha hP.1 c h
    · exact ihb hP.2 c h
  | altL a b u _ ih => intro hP; exact ih hP.1
  | altR a b u _ ih => intro hP; exact ih hP.2
  | starNil a => intro _ c hc; cases hc
  | starCons a u v _ _ iha ihs =>
    intro hP c hc
    rcases List.mem_append.mp hc with h | h
    · exact iha hP c h
    · exact ihs hP c h

/-! Completeness. The matcher may succeed with another word than the given `w` (it is leftmost-first). A productive
iteration of `star` consumes a character, hence the bound `w.length ≤ fuel`. -/

def CompleteFor (r : Re) (w : List Char) : Prop :=
  ∀ (fuel : Nat) (s' : List Char) (p : Nat) (k : K) (e : Nat), w.length ≤ fuel →
    k s' (p + utf8Len w) = some e → ∃ e', m r fuel (w ++ s') p k = some e'

/-- independent bounds for the body and the iteration count: the induction lowers the second alone -/
def LoopCompleteFor (a : Re) (w : List Char) : Prop :=
  ∀ (bf n : Nat) (s' : List Char) (p : Nat) (k : K) (e : Nat), w.length ≤ n → w.length ≤ bf →
    k s' (p + utf8Len w) = some e → ∃ e', starLoop (m a bf) k n (w ++ s') p = some e'

theorem starLoop_nil_complete (body : List Char → Nat → K → Option Nat) (k : K) (n : Nat) (s : List Char) (p e : Nat)
    (h : k s p = some e) : ∃ e', starLoop body k n s p = some e' := by
  cases n with
  | zero => exact ⟨e, by simpa [starLoop] using h⟩
  | succ n =>
    simp only [starLoop]
    split
    · exact ⟨_, rfl⟩
    · exact ⟨e, h⟩

theorem LoopCompleteFor.star {a : Re} {w : List Char} (hl : LoopCompleteFor a w) :
    CompleteFor (.star a) w ∧ (∀ a', Re.star a = .star a' → LoopCompleteFor a' w) :=
  ⟨fun fuel s' p k e hlen hk => hl fuel fuel s' p k e hlen hlen hk, fun _ ha => by cases ha; exact hl⟩

theorem m_complete {r : Re} {w : List Char} (h : Matches r w) :
    CompleteFor r w ∧ (∀ a, r = .star a → LoopCompleteFor a w) := by
  induction h with
  | eps =>
    refine ⟨?_, fun a ha => by cases ha⟩
    intro fuel s' p k e _ hk
    exact ⟨e, by simpa [m, utf8Len_nil] using hk⟩
  | cls rs c hin =>
    refine ⟨?_, fun a ha => by cases ha⟩
    intro fuel s' p k e _ hk
    refine ⟨e, ?_⟩
    simp only [List.cons_append, List.nil_append, m, hin, if_true]
    rw [utf8Len_cons, utf8Len_nil] at hk
    simpa using hk
  | seq a b u v _ _ iha ihb =>
    refine ⟨?_, fun a' ha => by cases ha⟩
    intro fuel s' p k e hlen hk
    rw [List.length_append] at hlen
    obtain ⟨e2, h2⟩ := ihb.1 fuel s' (p + utf8Len u) k e (by omega) (by rw [utf8Len_append, ← Nat.add_assoc] at hk; exact hk)
    obtain ⟨e1, h1⟩ := iha.1 fuel (v ++ s') p (fun s1 p1 => m b fuel s1 p1 k) e2 (by omega) h2
    exact ⟨e1, by simpa [m, List.append_assoc] using h1⟩
  | altL a b u _ ih =>
    refine ⟨?_, fun a' ha => by cases ha⟩
    intro fuel s' p k e hlen hk
    obtain ⟨e1, h1⟩ := ih.1 fuel s' p k e hlen hk
    exact ⟨e1, by simp [m, h1]⟩
  | altR a b u _ ih =>
    refine ⟨?_, fun a' ha => by cases ha⟩
    intro fuel s' p k e hlen hk
    obtain ⟨e1, h1⟩ := ih.1 fuel s' p k e hlen hk
    simp only [m]
    split
    · exact ⟨_, rfl⟩
    · exact ⟨e1, h1⟩
  | starNil a =>
    refine LoopCompleteFor.star fun bf n s' p k e _ _ hk => ?_
    rw [utf8Len_nil, Nat.add_zero] at hk
    exact starLoop_nil_complete _ k n _ p e hk
  | starCons a u v _ _ ihu ihv =>
    refine LoopCompleteFor.star fun bf n s' p k e hn hbf hk => ?_
    have hv := ihv.2 a rfl
    by_cases hu : u = []
    · subst hu
      simpa using hv bf n s' p k e (by simpa using hn) (by simpa using hbf) (by simpa using hk)
    · -- a non-empty first piece: one iteration that makes progress, the rest by the loop on `v`
      have hupos : 0 < utf8Len u := utf8Len_pos hu
      have hulen : 0 < u.length := List.length_pos_iff.mpr hu
      rw [List.length_append] at hn hbf
      cases n with
      | zero => omega
      | succ n =>
        simp only [starLoop]
        obtain ⟨e2, h2⟩ := hv bf n s' (p + utf8Len u) k e (by omega) (by omega)
          (by rw [utf8Len_append, ← Nat.add_assoc] at hk; exact hk)
        obtain ⟨e1, h1⟩ := ihu.1 bf (v ++ s') p
          (fun s1 p1 => if p < p1 then starLoop (m a bf) k n s1 p1 else none) e2 (by omega)
          (by simp only [show p < p + utf8Len u by omega, if_true]; exact h2)
        rw [List.append_assoc, h1]
        exact ⟨e1, rfl⟩

theorem matchAt_complete (r : Re) (w s' : List Char) (h : Matches r w) (fuel p : Nat) (hf : w.length ≤ fuel) :
    ∃ e, matchAt r fuel (w ++ s') p = some e := by
  unfold matchAt
  exact (m_complete h).1 fuel s' p _ (p + utf8Len w) hf rfl

theorem matchAt_none_iff (r : Re) (fuel : Nat) (s : List Char) (p : Nat) (hf : s.length ≤ fuel) :
    matchAt r fuel s p = none ↔ ∀ w s', s = w ++ s' → ¬ Matches r w := by
  constructor
  · intro hnone w s' hs hw
    subst hs
    obtain ⟨e, he⟩ := matchAt_complete r w s' hw fuel p (by rw [List.length_append] at hf; omega)
    rw [hnone] at he; cases he
  · intro hno
    cases h : matchAt r fuel s p with
    | none => rfl
    | some e =>
      obtain ⟨w, s', hs, hw, _⟩ := matchAt_sound r fuel s p e h
      exact absurd hw (hno w s' hs)

end Aidl.Props.RegexSound
